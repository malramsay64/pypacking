/-
  Proofs/TieParse.lean — translator tie for the symmetry-operation parser: the WHOLE body of
  `Transform2::from_operations`, regenerated from /repo's source on every run (tools/rs2lean.py →
  Generated/FnsParse.lean: trim, split, dimension check, the two nested loops with their mutable
  locals, the matrix writes, every `bail!`), is the hand-written model `fromOperations` the C17 / C16
  theorems are about — for EVERY input string and every scalar carrier (no algebra is used, so the
  statement holds for Float, Rat and the reals alike).
-/
import Generated.FnsParse
import Lemmas.ParserLemmas

-- the `variable` line of instances (below, before the tie) is the generated file's; the parser uses only `*`, `/`, `-`, casts
set_option linter.unusedSectionVars false

namespace PV.Proofs.TieParse
open PV PV.ParserLemmas

theorem foldlM_pair {β γ ε : Type} (f : β → γ → Except ε β) (b : β) (x y : γ) :
    List.foldlM f b [x, y] =
      (match f b x with
       | .error e => .error e
       | .ok b1 => f b1 y) := by
  simp only [List.foldlM_cons, List.foldlM_nil]
  cases f b x with
  | error e => rfl
  | ok b1 =>
    show (f b1 y >>= pure) = f b1 y
    cases f b1 y <;> rfl

/-- the mutable locals of the inner loop: `(constant, operator, sign, transform)` -/
abbrev GState (α : Type) := α × Option Char × α × Mat3 α

/-- the only operators the loop ever stores -/
def OkOp (o : Option Char) : Prop := o = none ∨ o = some '*' ∨ o = some '/'

/-- the generated loop writes the x and y coefficients straight into row `i` of the matrix it threads,
where the model keeps them in `cx`, `cy`: `emb i T cx cy` is `T` with that row filled in -/
def emb {α : Type} (i : Nat) (T : Mat3 α) (cx cy : α) : Mat3 α := (T.setEntry i 0 cx).setEntry i 1 cy

theorem emb_set0 {α : Type} (i : Nat) (hi : i = 0 ∨ i = 1) (T : Mat3 α) (cx cy v : α) :
    (emb i T cx cy).setEntry i 0 v = emb i T v cy := by
  rcases hi with rfl | rfl <;> rfl

theorem emb_set1 {α : Type} (i : Nat) (hi : i = 0 ∨ i = 1) (T : Mat3 α) (cx cy v : α) :
    (emb i T cx cy).setEntry i 1 v = emb i T cx v := by
  rcases hi with rfl | rfl <;> rfl

/-- the generated state that corresponds to a model state -/
def toG {α : Type} (i : Nat) (T : Mat3 α) (s : PState α) : GState α :=
  (s.const, s.op, s.sign, emb i T s.cx s.cy)

def toGE {α : Type} (i : Nat) (T : Mat3 α) : Except ParseErr (PState α) → Except ParseErr (GState α)
  | .ok s' => .ok (toG i T s')
  | .error e => .error e

section
variable {α : Type} [Mul α] [Div α] [Neg α] [NatCast α]

theorem act_okOp (s : PState α) (ho : OkOp s.op) (t : Token) : OkOp (s.act t).op := by
  cases t with
  | star => exact .inr (.inl rfl)
  | slash => exact .inr (.inr rfl)
  | digit n => exact .inl rfl
  | _ => exact ho

/- One character: the generated step is the model step.  Proved by cases on the character (x, y, *, /,
-, blank, +, digit, anything else) and, in every class, normalisation of both sides — so it does not
depend on the order of the arms of the generated `if` chain, on the names of the locals or on how the
tests are grouped; it fails when the function computed by the loop body changes. -/

theorem loop1_eq (i : Nat) (hi : i = 0 ∨ i = 1) (op : List Char) (T : Mat3 α) (s : PState α)
    (ho : OkOp s.op) (c : Char) :
    Gen.from_operations_loop1 i op (toG i T s) c = toGE i T (stepChar s c) := by
  obtain ⟨sg, k, o, cx, cy⟩ := s
  have e0 := emb_set0 (α := α) i hi
  have e1 := emb_set1 (α := α) i hi
  clear hi
  rcases char_cases c with h | ⟨hx, hy, hm, hd, hn, hsp, hpl⟩
  · rcases h with rfl | rfl | rfl | rfl | rfl | rfl | rfl <;>
      simp (config := { decide := true }) [Gen.from_operations_loop1, stepChar, toG, toGE, e0, e1]
  · by_cases hdig : '0' ≤ c ∧ c ≤ '9'
    · -- a digit: the three admissible operators
      obtain ⟨h0, h9⟩ := hdig
      rcases ho with ho | ho | ho <;> simp only at ho <;> subst ho <;>
        simp (config := { decide := true }) [Gen.from_operations_loop1, stepChar, toG, toGE, *]
    · -- anything else is rejected by both
      simp (config := { decide := true }) [Gen.from_operations_loop1, stepChar, toGE, *]

theorem foldlM_loop1 (i : Nat) (hi : i = 0 ∨ i = 1) (op : List Char) (T : Mat3 α) :
    ∀ (cs : List Char) (s : PState α), OkOp s.op →
      List.foldlM (Gen.from_operations_loop1 i op) (toG i T s) cs = toGE i T (runChars s cs)
  | [], s, _ => rfl
  | c :: cs, s, ho => by
    rw [List.foldlM_cons, loop1_eq i hi op T s ho c, runChars_cons, stepChar_eq]
    cases lex c with
    | none => rfl
    | some t => exact foldlM_loop1 i hi op T cs (s.act t) (act_okOp s ho t)

/-- one row of the outer loop, when row `i` of the incoming matrix still holds zeros -/
theorem loop2_eq (i : Nat) (hi : i = 0 ∨ i = 1) (T : Mat3 α)
    (hT : emb i T ((0 : Nat) : α) ((0 : Nat) : α) = T) (op : List Char) :
    Gen.from_operations_loop2 T (i, op) =
      (match parseRow (α := α) op with
       | .ok (a, b, k) => .ok ((emb i T a b).setEntry i 2 k)
       | .error e => .error e) := by
  have h := foldlM_loop1 i hi op T op (PState.init (α := α)) (Or.inl rfl)
  have h0 : toG i T (PState.init (α := α)) = (((0 : Nat) : α), none, ((1 : Nat) : α), T) := by
    simp only [toG, PState.init, hT]
  rw [h0] at h
  simp only [Gen.from_operations_loop2, parseRow, h]
  cases runChars (PState.init (α := α)) op with
  | error e => rfl
  | ok s' => rfl

end

variable {α : Type} [Add α] [Sub α] [Mul α] [Div α] [Neg α] [LT α] [DecidableLT α] [LE α]
         [DecidableLE α] [BEq α] [NatCast α] [IntCast α] [Transc α] [FModLike α] [FMin α]

theorem declared_translated_parse : Gen.fnsParseUntranslated = [] := by decide

theorem trimMatches_braces (s : List Char) : trimMatches ['(', ')'] s = trimBraces s := by
  have h : (fun c : Char => ['(', ')'].contains c) = isBrace := by
    funext c
    simp only [isBrace, List.contains_cons, List.contains_nil, Bool.or_false]
  unfold trimMatches trimBraces
  rw [h]

theorem from_operations_tie (s : List Char) :
    Gen.from_operations (α := α) s = fromOperations (α := α) s := by
  simp only [Gen.from_operations, fromOperations, trimMatches_braces]
  generalize splitTerminator (trimBraces s) = ops
  match ops with
  | [] => rfl
  | [_] => rfl
  | _ :: _ :: _ :: _ =>
    simp only [List.length_cons]
    rw [if_neg (by omega), if_pos (by omega)]
  | [r0, r1] =>
    simp only [List.length_cons, List.length_nil, Nat.lt_irrefl, if_false, List.zipIdx_cons,
      List.zipIdx_nil, List.map_cons, List.map_nil, Nat.zero_add]
    rw [foldlM_pair, loop2_eq 0 (Or.inl rfl) _ rfl r0]
    cases parseRow (α := α) r0 with
    | error e => rfl
    | ok abc =>
      obtain ⟨a, b, c⟩ := abc
      dsimp only
      rw [loop2_eq 1 (Or.inr rfl) _ rfl r1]
      cases parseRow (α := α) r1 with
      | error e => rfl
      | ok def_ =>
        obtain ⟨d, e, f⟩ := def_
        rfl

end PV.Proofs.TieParse
