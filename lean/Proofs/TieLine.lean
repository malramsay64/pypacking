/-
  Proofs/TieLine.lean — translator tie for `Line2::{dx, dy, intersects}` and the tolerance constant
  (src/shape/components/line2.rs → Generated/FnsLine.lean): over the reals they are the model's `Line2.*` (C01, C12).
-/
import Lemmas.TieTactics
import Generated.FnsLine

namespace PV.Proofs.Tie
open PV

theorem declared_translated_line : Gen.fnsLineUntranslated = [] := by decide

@[tie]
theorem line2_dx_tie (l : Line2 ℝ) : Gen.line2_dx l = l.dx := by
  unfold Gen.line2_dx Line2.dx
  tie_close

@[tie]
theorem line2_dy_tie (l : Line2 ℝ) : Gen.line2_dy l = l.dy := by
  unfold Gen.line2_dy Line2.dy
  tie_close

@[tie]
theorem line2_intersects_tie (a b : Line2 ℝ) : Gen.line2_intersects a b = a.intersects b := by
  unfold Gen.line2_intersects Line2.intersects
  -- the tolerance the model evaluates is the generated constant (`1e-12` by `C12.declared_tolerance`), the
  -- literal of the translated body
  tie_close [lineTol, Generated.lineTolerance]

end PV.Proofs.Tie
