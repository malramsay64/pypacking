/-
  Proofs/C10.lean — C10: the CLI writes the best replica, labelled with what was asked for.
  Carrier ℝ.  `cliRun` (Model/Cli.lean) is the model of `analyse_state` (src/main.rs) with the stage
  overrides and the reduction regenerated from the source; the `cli` request family runs the real
  binary and compares the written JSON and the logged score with `cliRun` bit for bit.  The ordering
  of states behind the reduction and the shape constructors the CLI calls are translated from the
  source and proved to be the model's (Proofs/TieCmp, Proofs/TieCtor).
-/
import Lemmas.RealCarrier
import Model.Cli

namespace PV.Proofs.C10
open PV

/-- three stages — (steps 1000, kt_start 0, seed = index, no convergence), (seed = index),
(kt_start 0, seed = index) — reduced with `max` -/
theorem declared_pipeline :
    Generated.cliStages =
      [[.steps 1000, .ktStart (.lit 0 1), .seedIndex, .convergence none], [.seedIndex],
       [.ktStart (.lit 0 1), .seedIndex]] ∧
    Generated.cliReduction = "max" ∧ Generated.cliUnrecognised = [] := by
  decide

/-- the `--start-config` option is declared but never read (the identifier occurs once, in the
options struct): the state that is optimised and written is built by `from_group` of the REQUESTED
group and shape only, so a file passed there cannot relabel the output -/
theorem declared_start_config_unused : Generated.cliStartConfigUses = 1 := by decide

/-- the order `.max()` uses: both state types implement `PartialOrd` and `Ord`; the bodies of these
impls are regenerated from the source and proved to be the order by score with `cmp` the unwrapped
comparison — the model's `maxRight` is `std::cmp::max` for them (Proofs/TieCmp.lean) -/
theorem declared_ordering :
    Generated.stateOrderByScore = [("PackedState", true), ("PotentialState", true)] :=
  rfl

/-- every table entry is labelled with the name it is looked up by, and `Wallpaper::new` copies
name and family (after the `fix:` for p1g1) -/
theorem label_faithful :
    Generated.tables.all (fun e => e.name == e.variant) = true ∧ Generated.wallpaperNewCopies = true := by
  decide

/-- how rayon may split and combine the index-ordered replica results -/
inductive Br (β : Type)
  | empty
  | leaf (x : β)
  | node (l r : Br β)

def Br.toList {β : Type} : Br β → List β
  | .empty => []
  | .leaf x => [x]
  | .node l r => l.toList ++ r.toList

section
variable {β : Type} (score : β → ℝ)

/-- `std::cmp::max(a, b)`: `b` unless `a` is strictly greater -/
noncomputable def mr (a b : β) : β := if score b < score a then a else b

/-- `reduce_with(cmp::max)` over a bracketing -/
noncomputable def Br.reduce : Br β → Option β
  | .empty => none
  | .leaf x => some x
  | .node l r =>
    match l.reduce, r.reduce with
    | some a, some b => some (mr score a b)
    | some a, none => some a
    | none, some b => some b
    | none, none => none

noncomputable def lastArgmax : List β → Option β
  | [] => none
  | x :: xs => some (xs.foldl (mr score) x)

theorem mr_left {a b : β} (h : score b < score a) : mr score a b = a := if_pos h

theorem mr_right {a b : β} (h : score a ≤ score b) : mr score a b = b := if_neg (not_lt.mpr h)

theorem mr_mem (a b : β) : mr score a b = a ∨ mr score a b = b :=
  (lt_or_ge (score b) (score a)).imp (mr_left score) (mr_right score)

theorem score_le_mr_left (a b : β) : score a ≤ score (mr score a b) := by
  rcases lt_or_ge (score b) (score a) with h | h
  · rw [mr_left score h]
  · rw [mr_right score h]
    exact h

theorem score_le_mr_right (a b : β) : score b ≤ score (mr score a b) := by
  rcases lt_or_ge (score b) (score a) with h | h
  · rw [mr_left score h]
    exact h.le
  · rw [mr_right score h]

theorem mr_assoc (a b c : β) : mr score (mr score a b) c = mr score a (mr score b c) := by
  rcases lt_or_ge (score b) (score a) with h1 | h1 <;>
    rcases lt_or_ge (score c) (score b) with h2 | h2
  · rw [mr_left score h1, mr_left score h2, mr_left score h1, mr_left score (h2.trans h1)]
  · rw [mr_left score h1, mr_right score h2]
  · rw [mr_right score h1, mr_left score h2, mr_right score h1]
  · rw [mr_right score h1, mr_right score h2, mr_right score (h1.trans h2)]

theorem foldl_mr_cons (x y : β) (ys : List β) :
    (y :: ys).foldl (mr score) x = mr score x (ys.foldl (mr score) y) :=
  haveI : Std.Associative (mr score) := ⟨mr_assoc score⟩
  List.foldl_assoc

/-- `lastArgmax` takes `++` to the operation with which `Br.reduce` combines two halves -/
theorem lastArgmax_append (l r : List β) :
    lastArgmax score (l ++ r) =
      match lastArgmax score l, lastArgmax score r with
      | some a, some b => some (mr score a b)
      | some a, none => some a
      | none, some b => some b
      | none, none => none := by
  cases l with
  | nil => cases r <;> rfl
  | cons x xs =>
    cases r with
    | nil =>
      rw [List.append_nil]
      rfl
    | cons y ys =>
      simp only [lastArgmax, List.cons_append, List.foldl_append]
      rw [foldl_mr_cons]

/-- the choice does not depend on how the range is split: every bracketing (with empty
segments) reduces to the last maximal element of the index-ordered sequence, ties included -/
theorem reduce_any_tree (t : Br β) : t.reduce score = lastArgmax score t.toList := by
  induction t with
  | empty => rfl
  | leaf x => rfl
  | node l r ihl ihr => rw [Br.reduce, ihl, ihr, Br.toList, lastArgmax_append]

theorem foldl_mr_is_max (xs : List β) (x : β) :
    xs.foldl (mr score) x ∈ x :: xs ∧ ∀ y ∈ x :: xs, score y ≤ score (xs.foldl (mr score) x) := by
  induction xs generalizing x with
  | nil => simp
  | cons z zs ih =>
    obtain ⟨hm, hle⟩ := ih z
    rw [foldl_mr_cons]
    refine ⟨?_, fun y hy => ?_⟩
    · rcases mr_mem score x (zs.foldl (mr score) z) with e | e
      · rw [e]
        exact List.mem_cons_self
      · rw [e]
        exact List.mem_cons_of_mem _ hm
    · rcases List.mem_cons.mp hy with rfl | hy
      · exact score_le_mr_left ..
      · exact (hle y hy).trans (score_le_mr_right ..)

theorem lastArgmax_is_max (l : List β) (b : β) (h : lastArgmax score l = some b) :
    b ∈ l ∧ ∀ x ∈ l, score x ≤ score b := by
  cases l with
  | nil => cases h
  | cons x xs =>
    cases h
    exact foldl_mr_is_max score xs x

end

variable {G : Type}

/-- the score used to compare two states whose scores are defined -/
noncomputable def sc (s : Crystal ℝ) : ℝ := s.score.getD 0

def statesOf (results : List (Outcome (Crystal ℝ))) : List (Crystal ℝ) :=
  results.filterMap fun r => match r with | .ok s => some s | .panic _ => none

theorem mem_statesOf (results : List (Outcome (Crystal ℝ))) (s : Crystal ℝ) :
    s ∈ statesOf results ↔ .ok s ∈ results := by
  unfold statesOf
  rw [List.mem_filterMap]
  constructor
  · rintro ⟨r, hr, h⟩
    cases r with
    | ok t =>
      cases h
      exact hr
    | panic p => cases h
  · exact fun h => ⟨_, h, rfl⟩

theorem mr_of_maxRight {a b c : Crystal ℝ} (h : maxRight a b = some c) : mr sc a b = c := by
  unfold maxRight at h
  split at h
  · rename_i x y hx hy
    simp only [beq_self_eq_true, Bool.not_true, Bool.or_self, Bool.false_eq_true, if_false] at h
    simp only [mr, sc, hx, hy, Option.getD_some]
    split_ifs at h ⊢ <;> exact Option.some.inj h
  · cases h

theorem foldl_maxRight_eq (ys : List (Crystal ℝ)) (acc : Option (Crystal ℝ)) (best : Crystal ℝ)
    (h : ys.foldl (fun acc y => acc.bind fun a => maxRight a y) acc = some best) :
    ∃ x, acc = some x ∧ ys.foldl (mr sc) x = best := by
  induction ys generalizing acc with
  | nil => exact ⟨best, h, rfl⟩
  | cons y ys ih =>
    obtain ⟨c, hc, hb⟩ := ih _ h
    obtain ⟨x, rfl, hm⟩ := Option.bind_eq_some_iff.mp hc
    exact ⟨x, rfl, by rw [List.foldl_cons, mr_of_maxRight hm, hb]⟩

theorem reduceMax_eq_lastArgmax (l : List (Crystal ℝ)) (best : Crystal ℝ)
    (h : reduceMax l = some (some best)) : lastArgmax sc l = some best := by
  cases l with
  | nil => simp [reduceMax] at h
  | cons x xs =>
    simp only [reduceMax, Option.map_eq_some_iff, Option.some.injEq] at h
    obtain ⟨a, ha, rfl⟩ := h
    obtain ⟨_, hx, hb⟩ := foldl_maxRight_eq xs _ a ha
    cases hx
    exact congrArg some hb

theorem cliRun_written (next : Nat → G → (Nat × ℝ × ℝ) × G) (mkGen : Nat → G)
    (b : Builder ℝ) (st : Crystal ℝ) (k : Nat) (best : Crystal ℝ) (v : ℝ)
    (h : cliRun next mkGen b st k = .written best v) :
    lastArgmax sc (statesOf ((List.range k).map (replica next mkGen b st))) = some best ∧
      best.score = some v := by
  unfold cliRun at h
  simp only [] at h
  split at h
  · cases h
  · split at h
    · cases h
    · cases h
    · rename_i best' hred
      split at h
      · rename_i v' hv
        cases h
        refine ⟨?_, hv⟩
        -- `statesOf` is the list `cliRun` reduces, up to the name of the `match`
        unfold statesOf
        convert reduceMax_eq_lastArgmax _ _ hred using 3
        rename_i r _
        cases r <;> rfl
      · cases h

/-- C10: the written structure is the best replica and the logged score is its score -/
theorem written_is_max (next : Nat → G → (Nat × ℝ × ℝ) × G) (mkGen : Nat → G)
    (b : Builder ℝ) (st : Crystal ℝ) (k : Nat) (best : Crystal ℝ) (v : ℝ)
    (h : cliRun next mkGen b st k = .written best v) :
    best.score = some v ∧
    (∃ i < k, replica next mkGen b st i = .ok best) ∧
    (∀ i < k, ∀ s x, replica next mkGen b st i = .ok s → s.score = some x → x ≤ v) := by
  obtain ⟨hl, hv⟩ := cliRun_written next mkGen b st k best v h
  obtain ⟨hm, hle⟩ := lastArgmax_is_max sc _ _ hl
  simp only [mem_statesOf, List.mem_map, List.mem_range] at hm hle
  obtain ⟨i, hi, hr⟩ := hm
  refine ⟨hv, ⟨i, hi, hr⟩, fun i hi s x hs hx => ?_⟩
  simpa [sc, hx, hv] using hle s ⟨i, hi, hs⟩

/-- C10: running with more replications never yields a lower score -/
theorem prefix_monotone (next : Nat → G → (Nat × ℝ × ℝ) × G) (mkGen : Nat → G)
    (b : Builder ℝ) (st : Crystal ℝ) (k k' : Nat) (hk : k ≤ k') (best best' : Crystal ℝ) (v v' : ℝ)
    (h : cliRun next mkGen b st k = .written best v)
    (h' : cliRun next mkGen b st k' = .written best' v') : v ≤ v' := by
  obtain ⟨hv, ⟨i, hi, hr⟩, -⟩ := written_is_max next mkGen b st k best v h
  exact (written_is_max next mkGen b st k' best' v' h').2.2 i (hi.trans_le hk) best v hr hv

/-- what no stage changes -/
def identity (s : Crystal ℝ) :=
  (s.name, s.family, s.shape, s.kind, s.cell.family, s.sites.map (·.ops))

theorem identity_withHeap (s : Crystal ℝ) (h : Array ℝ) : identity (s.withHeap h) = identity s := by
  simp only [identity, Crystal.withHeap, List.map_map, Prod.mk.injEq, true_and]
  conv_rhs => rw [← List.zipIdx_map_fst 0 s.sites, List.map_map]
  rfl

theorem totalShapes_eq (s : Crystal ℝ) :
    s.totalShapes = (s.sites.map (·.ops)).foldl (fun acc o => acc + o.length) 0 := by
  simp only [Crystal.totalShapes, Site.multiplicity, List.foldl_map]

theorem identity_eq {s t : Crystal ℝ} (h : identity s = identity t) :
    s.name = t.name ∧ s.family = t.family ∧ s.shape = t.shape ∧ s.kind = t.kind ∧
    s.cell.family = t.cell.family ∧ s.sites.map (·.ops) = t.sites.map (·.ops) ∧
    s.totalShapes = t.totalShapes := by
  simp only [identity, Prod.mk.injEq] at h
  obtain ⟨h1, h2, h3, h4, h5, h6⟩ := h
  exact ⟨h1, h2, h3, h4, h5, h6, by rw [totalShapes_eq, totalShapes_eq, h6]⟩

theorem runStage_same (next : Nat → G → (Nat × ℝ × ℝ) × G) (mkGen : Nat → G)
    (b : Builder ℝ) (st s : Crystal ℝ) (h : runStage next mkGen b st = .ok s) :
    identity s = identity st := by
  unfold runStage at h
  split at h
  · cases h
  · simp only [] at h
    split at h
    · cases h
    · cases h
      exact identity_withHeap _ _

/-- the fold of `replica` over the stages, with the step function a variable: the step of `replica`
is a `fun` with a `match` inside, which a statement cannot name, so it is described by what it does
on a panic (`hp`) and on a state (`ho`) and `replica_same` puts it in by `rfl` -/
theorem stages_same (next : Nat → G → (Nat × ℝ × ℝ) × G) (mkGen : Nat → G)
    (b : Builder ℝ) (i : Nat) (f : Outcome (Crystal ℝ) → List Ovr → Outcome (Crystal ℝ))
    (hp : ∀ p o, f (.panic p) o = .panic p)
    (ho : ∀ s o, f (.ok s) o = runStage next mkGen (stageBuilder b i o) s)
    (stages : List (List Ovr)) (acc : Outcome (Crystal ℝ)) (s : Crystal ℝ)
    (h : stages.foldl f acc = .ok s) :
    ∃ st, acc = .ok st ∧ identity s = identity st := by
  induction stages generalizing acc with
  | nil => exact ⟨s, h, rfl⟩
  | cons o os ih =>
    obtain ⟨t, ht, hst⟩ := ih _ h
    cases acc with
    | panic p =>
      rw [hp] at ht
      cases ht
    | ok st =>
      rw [ho] at ht
      exact ⟨st, rfl, hst.trans (runStage_same next mkGen _ st t ht)⟩

theorem replica_same (next : Nat → G → (Nat × ℝ × ℝ) × G) (mkGen : Nat → G)
    (b : Builder ℝ) (st s : Crystal ℝ) (i : Nat) (h : replica next mkGen b st i = .ok s) :
    identity s = identity st := by
  obtain ⟨t, ht, hs⟩ := stages_same next mkGen b i _ (fun _ _ => rfl) (fun _ _ => rfl)
    Generated.cliStages (.ok st) s h
  cases ht
  exact hs

/-- optimisation changes parameters only: label, family, shape, kind and the operations of every
site (hence the number of copies) are those of the input state -/
theorem withHeap_keeps_identity (s : Crystal ℝ) (h : Array ℝ) :
    (s.withHeap h).name = s.name ∧ (s.withHeap h).family = s.family ∧ (s.withHeap h).shape = s.shape ∧
    (s.withHeap h).kind = s.kind ∧ (s.withHeap h).cell.family = s.cell.family ∧
    (s.withHeap h).sites.map (·.ops) = s.sites.map (·.ops) ∧
    (s.withHeap h).totalShapes = s.totalShapes :=
  identity_eq (identity_withHeap s h)

/-- C10: the written structure records the requested group, family and shape and contains the
group's full number of copies -/
theorem written_labelled (next : Nat → G → (Nat × ℝ × ℝ) × G) (mkGen : Nat → G)
    (b : Builder ℝ) (kind : Kind) (shape : Shape ℝ) (name : List Char) (family : Family)
    (ops : List (Mat3 ℝ)) (k : Nat) (best : Crystal ℝ) (v : ℝ)
    (h : cliRun next mkGen b (Crystal.fromGroup kind shape name family ops) k = .written best v) :
    best.name = name ∧ best.family = family ∧ best.shape = shape ∧ best.kind = kind ∧
    best.cell.family = family ∧ best.totalShapes = ops.length := by
  obtain ⟨_, ⟨i, _, hi⟩, _⟩ := written_is_max next mkGen b _ k best v h
  obtain ⟨h1, h2, h3, h4, h5, -, h7⟩ := identity_eq (replica_same next mkGen b _ best i hi)
  refine ⟨h1, h2, h3, h4, h5, h7.trans ?_⟩
  simp [Crystal.fromGroup, Crystal.totalShapes, Site.fromWyckoff, Site.multiplicity]

/-- zero replications: an error, not a panic and not a file -/
theorem zero_replications (next : Nat → G → (Nat × ℝ × ℝ) × G) (mkGen : Nat → G)
    (b : Builder ℝ) (st : Crystal ℝ) :
    cliRun next mkGen b st 0 = .error "Error in running optimisation." := by
  simp [cliRun, reduceMax]

end PV.Proofs.C10
