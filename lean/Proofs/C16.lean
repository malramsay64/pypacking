/-
  Proofs/C16.lean — C16: the built-in tables are the seven named wallpaper groups.

  Every statement is about `Generated.tables`, i.e. about the text of `src/wallpaper.rs` as it is
  on this run (regenerated by tools/pvtx.py), parsed by the *model's* parser (`fromOperations`,
  tied to `Transform2::from_operations` by the `parse` correspondence and, for every string, by the
  translation tie Proofs/TieParse) at the exact carrier `Rat`.
  The space is finite (7 tables, ≤ 4 operations, ≤ 16 products each) and is decided completely in
  the kernel (`decide +kernel`, no axioms beyond the three standard ones); the Boolean checks are
  then lifted to the quantified statements.
-/
import Model.Parser
import Generated.Tables
import Spec.Groups

namespace PV.Proofs.C16
open PV PV.Spec PV.Generated

def parsedOps (e : TableEntry) : Option (List Aff) :=
  e.ops.mapM fun s => match fromOperations (α := Rat) s with
    | .ok m => some (affOfMat m)
    | .error _ => none

/-- the rows of the parsed matrices that `affOfMat` drops are zero (the parser never writes row 2) -/
def lastRowZero (e : TableEntry) : Bool :=
  e.ops.all fun s => match fromOperations (α := Rat) s with
    | .ok m => m.m20 == 0 && m.m21 == 0 && m.m22 == 0
    | .error _ => false

def entryOk (e : TableEntry) : Bool :=
  match parsedOps e, referenceFor e.variant with
  | some ops, some (fam, cont, ref) =>
      lastRowZero e
      && ops == ref                               -- exactly the ITA general positions, in order
      && e.family == fam                          -- paired with the ITA family
      && content ops == cont                      -- order and two-fold/mirror/glide content
      && ops.head? == some Aff.id                 -- identity present (first)
      && closed ops && hasInverses ops && distinctModLattice ops
      && familyOf ops == some e.family            -- the family whose cells the ops leave invariant
  | _, _ => false

theorem translator_recognised_everything :
    tablesUnrecognised = [] ∧ wyckoffNewParsesAll = true := by decide +kernel

theorem variants_are_the_seven :
    cliVariants = reference.map (·.1) ∧ tables.map (·.variant) = cliVariants := by decide +kernel

theorem all_entries_ok : tables.all entryOk = true := by decide +kernel

theorem entry_ok {e : TableEntry} (he : e ∈ tables) :
    ∃ ops fam cont ref, parsedOps e = some ops ∧ referenceFor e.variant = some (fam, cont, ref) ∧
      lastRowZero e = true ∧ ops = ref ∧ e.family = fam ∧ content ops = cont ∧
      ops.head? = some Aff.id ∧ closed ops = true ∧ hasInverses ops = true ∧
      distinctModLattice ops = true ∧ familyOf ops = some e.family := by
  have h := List.all_eq_true.mp all_entries_ok e he
  unfold entryOk at h
  split at h
  · rename_i ops fam cont ref hp hr
    simp only [Bool.and_eq_true, beq_iff_eq, and_assoc] at h
    exact ⟨ops, fam, cont, ref, hp, hr, h⟩
  · cases h

/-- C16, clause by clause: for every supported group (every entry of the table the CLI looks
groups up in — and these are exactly the seven CLI names), every operation string parses, and the
parsed list *is* the reference list of that plane group; it starts with the identity, is closed
under composition and inverses modulo lattice translations, has no duplicates modulo the lattice,
has the group's order and two-fold/mirror/glide content, and carries the crystal family whose
cells its linear parts leave invariant. -/
theorem C16_tables_are_the_plane_groups :
    ∀ e ∈ tables, ∃ ops fam cont ref,
      parsedOps e = some ops ∧ referenceFor e.variant = some (fam, cont, ref) ∧
      ops = ref ∧ e.family = fam ∧ content ops = cont ∧ ops.head? = some Aff.id ∧
      (∀ g ∈ ops, ∀ h ∈ ops, ∃ k ∈ ops, (g.comp h).equivModLattice k = true) ∧
      (∀ g ∈ ops, ∃ h ∈ ops, (g.comp h).equivModLattice Aff.id = true ∧
                              (h.comp g).equivModLattice Aff.id = true) ∧
      distinctModLattice ops = true ∧ familyOf ops = some e.family := by
  intro e he
  obtain ⟨ops, fam, cont, ref, hp, hr, -, h1, h2, h3, h4, h5, h6, h7, h8⟩ := entry_ok he
  refine ⟨ops, fam, cont, ref, hp, hr, h1, h2, h3, h4, fun g hg k hk => ?_, fun g hg => ?_, h7, h8⟩
  · exact List.any_eq_true.mp (List.all_eq_true.mp (List.all_eq_true.mp h5 g hg) k hk)
  · obtain ⟨k, hk, hk2⟩ := List.any_eq_true.mp (List.all_eq_true.mp h6 g hg)
    exact ⟨k, hk, Bool.and_eq_true_iff.mp hk2⟩

theorem C16_all_strings_parse :
    ∀ e ∈ tables, ∀ s ∈ e.ops, ∃ m, fromOperations (α := Rat) s = .ok m := by
  intro e he s hs
  obtain ⟨-, -, -, -, -, -, hl, -⟩ := entry_ok he
  have hrow := List.all_eq_true.mp hl s hs
  split at hrow
  · exact ⟨_, ‹_›⟩
  · cases hrow

/-- with `variants_are_the_seven`: the supported names are exactly the seven CLI variants, one table
entry each -/
theorem C16_seven_groups : tables.length = 7 ∧ cliVariants.length = 7 := by decide +kernel

example : (tables.find? (·.variant == "p2mg".toList)).map parsedOps =
    some (some [⟨1,0,0,1,0,0⟩, ⟨-1,0,0,-1,0,0⟩, ⟨-1,0,0,1,1/2,0⟩, ⟨1,0,0,-1,1/2,0⟩]) := by
  decide +kernel

/-- a table with one `1/2` moved to the other coordinate is *not* closed: the check has teeth -/
example : closed [⟨1,0,0,1,0,0⟩, ⟨-1,0,0,-1,0,0⟩, ⟨-1,0,0,1,0,1/2⟩, ⟨1,0,0,-1,1/2,0⟩] = false := by
  decide +kernel

end PV.Proofs.C16
