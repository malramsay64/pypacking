/-
  Proofs/TiePotential.lean — translator tie for src/state/potential.rs: `total_shapes`,
  `relative_positions`, `cartesian_positions` and `score` (the in-cell pair loop, the three shells of
  periodic images, the weight of a periodic pair, the normalisation) as regenerated from the source
  are the model's `Crystal.scoreLJ` (C03).
-/
import Lemmas.TieLists
import Proofs.TieImages
import Proofs.TieSite
import Proofs.TieShapeDispatch
import Generated.FnsPotential

namespace PV.Proofs.Tie
open PV

theorem declared_translated_potential : Gen.fnsPotentialUntranslated = [] := by decide

@[tie]
theorem potential_total_shapes_tie (s : Crystal ℝ) : Gen.potential_total_shapes s = s.totalShapes := by
  unfold Gen.potential_total_shapes Crystal.totalShapes
  tie_close

@[tie]
theorem potential_relative_positions_tie (s : Crystal ℝ) :
    Gen.potential_relative_positions s = s.relPositions := by
  unfold Gen.potential_relative_positions Crystal.relPositions
  tie_close

@[tie]
theorem potential_cartesian_positions_tie (s : Crystal ℝ) :
    Gen.potential_cartesian_positions s = s.cartPositions := by
  unfold Gen.potential_cartesian_positions Crystal.cartPositions
  tie_close

@[tie]
theorem potential_score_tie (s : Crystal ℝ) : Gen.potential_score s = s.scoreLJ := by
  unfold Gen.potential_score Crystal.scoreLJ
  -- the in-cell loop nest visits the model's ordered pairs; as sums, like the goal
  have hpairs := foldl_enumerate_skip (fun (acc : ℝ) (a b : Shape ℝ) => acc + a.energy b)
    (s.cartPositions.map fun p => s.shape.transform p) 0
  simp only [tie] at hpairs
  -- the shell count and the weight of a periodic pair the model evaluates are the generated ones (3 and 1/2 by
  -- `C03.declared_lj_constants`), the literals of the translated body
  tie_close [hpairs, Generated.ljShells, Generated.ljPeriodicWeight]

end PV.Proofs.Tie
