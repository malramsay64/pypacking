/-
  Proofs/C11.lean — C11: output is faithful — JSON round-trips and the SVG shows the same structure.

  `encCrystal` / `decCrystal` (Model/Json.lean) are the model of the derived `Serialize` /
  `Deserialize` of the state types, written against the field order, types and serde attributes
  that the translator regenerates from the struct definitions on every run (`Generated.schema`,
  spelt out in `declared_schema`); the `json` request family compares the model's value tree with
  the text the crate really writes, token by token.  Carrier: ARBITRARY for the round trip (no
  arithmetic is involved; it holds for the doubles themselves); ℝ for the SVG matrix semantics.
  Trusted, not modelled: number ↔ text (`ryu` printing, `serde_json` parsing with the
  `float_roundtrip` feature — enabled by a `fix:`; the search checks text round trips on the crate).
-/
import Model.Json
import Model.Svg
import Generated.Cli
import Proofs.C14

namespace PV.Proofs.C11
open PV

/-- the serialisation schema of the source: every struct derives both directions, no container or
field carries a serde attribute (nothing skipped, renamed, defaulted or flattened), fields in this
order; `SharedValue` is a bare number; the family is a unit enum -/
theorem declared_schema :
    Generated.schema =
      [ ("PackedState", true, true, [], [("wallpaper", "Wallpaper", []), ("shape", "S", []), ("cell", "Cell2", []), ("occupied_sites", "Vec<OccupiedSite>", [])]),
        ("PotentialState", true, true, [], [("wallpaper", "Wallpaper", []), ("shape", "S", []), ("cell", "Cell2", []), ("occupied_sites", "Vec<OccupiedSite>", [])]),
        ("Wallpaper", true, true, [], [("name", "String", []), ("family", "CrystalFamily", [])]),
        ("WyckoffSite", true, true, [], [("letter", "char", []), ("symmetries", "Vec<Transform2>", []), ("num_rotations", "u64", []), ("mirror_primary", "bool", []), ("mirror_secondary", "bool", [])]),
        ("Cell2", true, true, [], [("length", "SharedValue", []), ("ratio", "SharedValue", []), ("angle", "SharedValue", []), ("family", "CrystalFamily", [])]),
        ("OccupiedSite", true, true, [], [("wyckoff", "WyckoffSite", []), ("x", "SharedValue", []), ("y", "SharedValue", []), ("angle", "SharedValue", [])]),
        ("LineShape", true, true, [], [("name", "String", []), ("items", "Vec<Line2>", [])]),
        ("MolecularShape2", true, true, [], [("name", "String", []), ("items", "Vec<Atom2>", [])]),
        ("LJShape2", true, true, [], [("name", "String", []), ("items", "Vec<LJ2>", [])]),
        ("Line2", true, true, [], [("start", "Point2<f64>", []), ("end", "Point2<f64>", [])]),
        ("Atom2", true, true, [], [("position", "Point2<f64>", []), ("radius", "f64", [])]),
        ("LJ2", true, true, [], [("position", "Point2<f64>", []), ("sigma", "f64", []), ("epsilon", "f64", []), ("cutoff", "Option<f64>", [])]),
        ("Transform2", true, true, [], [("0", "nalgebra::Transform2<f64>", [])]) ] ∧
    Generated.sharedValueIsBareF64 = true ∧
    Generated.familyVariants = ["Monoclinic", "Orthorhombic", "Hexagonal", "Tetragonal"] :=
  ⟨rfl, rfl, rfl⟩

section
variable {α : Type}

theorem mapM_map_some {β γ : Type} (enc : β → γ) (dec : γ → Option β)
    (h : ∀ x, dec (enc x) = some x) (l : List β) : (l.map enc).mapM dec = some l := by
  rw [List.mapM_map, show dec ∘ enc = (pure <| id ·) from funext h, List.mapM_pure, List.map_id]
  rfl

theorem decMat_encMat (m : Mat3 α) : decMat (encMat m) = some m := by
  cases m
  rfl

theorem decFamily_encFamily (f : Family) : decFamily (encFamily (α := α) f) = some f := by
  cases f <;> rfl

theorem decCell_encCell (c : Cell α) : decCell (encCell c) = some c := by
  cases c with
  | mk l r a f =>
    -- decoding the written record evaluates to the constructor mapped over the decoded component
    exact congrArg (Option.map fun f => (⟨l, r, a, f⟩ : Cell α)) (decFamily_encFamily f)

theorem decSite_encSite (s : Site α) : decSite (encSite s) = some s := by
  cases s with
  | mk ops x y a =>
    exact congrArg (Option.map fun ops => (⟨ops, x, y, a⟩ : Site α))
      (mapM_map_some encMat decMat decMat_encMat ops)

theorem decLine_enc (l : Line2 α) :
    decLine (.obj [("start", encPt l.sx l.sy), ("end", encPt l.ex l.ey)]) = some l := by
  cases l
  rfl

theorem decAtom_enc (a : Atom2 α) :
    decAtom (.obj [("position", encPt a.x a.y), ("radius", .f a.r)]) = some a := by
  cases a
  rfl

theorem decLJ_enc (p : LJ2 α) :
    decLJ (.obj [("position", encPt p.x p.y), ("sigma", .f p.sigma), ("epsilon", .f p.epsilon),
            ("cutoff", match p.cutoff with | some c => .f c | none => .null)]) = some p := by
  obtain ⟨x, y, s, e, c⟩ := p
  cases c <;> rfl

theorem decShape_encShape (name : String) (sh : Shape α) :
    decShape sh.kindOf (encShape name sh) = some (name, sh) := by
  cases sh with
  | line items =>
    exact congrArg (Option.map fun xs => (name, Shape.line xs)) (mapM_map_some _ _ decLine_enc items)
  | mol items =>
    exact congrArg (Option.map fun xs => (name, Shape.mol xs)) (mapM_map_some _ _ decAtom_enc items)
  | lj items =>
    exact congrArg (Option.map fun xs => (name, Shape.lj xs)) (mapM_map_some _ _ decLJ_enc items)

/-- C11, the JSON round trip: reading back what was written gives the very same state — every
parameter (as the same value of the carrier, i.e. the same double), the group label, the family,
the shape with all its components, every site with its operations — nothing needed to reproduce
the structure is lost. -/
theorem decode_encode (name : String) (st : Crystal α) :
    decCrystal st.kind st.shape.kindOf (encCrystal name st) = some (name, st) := by
  cases st
  simp only [encCrystal, decCrystal, decFamily_encFamily, decShape_encShape, decCell_encCell,
    mapM_map_some encSite decSite decSite_encSite, String.toList_ofList]

/-- consequently score, placements and re-serialisation are identical -/
theorem reencode_same (name : String) (st : Crystal α) (name' : String) (st' : Crystal α)
    (h : decCrystal st.kind st.shape.kindOf (encCrystal name st) = some (name', st')) :
    encCrystal name' st' = encCrystal name st := by
  rw [decode_encode] at h
  obtain ⟨rfl, rfl⟩ := Prod.mk.inj (Option.some.inj h)
  rfl

end

/-- SVG's `matrix(a b c d e f)` applied to a point is the placement applied to the point
(affine placements: projective row `0 0 0` or `0 0 1`) -/
theorem svg_matrix_semantics (m : Mat3 ℝ) (h : m.m20 = 0 ∧ m.m21 = 0 ∧ (m.m22 = 0 ∨ m.m22 = 1))
    (href fill : String) (x y : ℝ) :
    (svgOf href fill m).applyTo x y = ((m.apply ⟨x, y⟩).x, (m.apply ⟨x, y⟩).y) := by
  rw [C14.apply_affine m h]
  rfl

theorem length_images (c : Cell ℝ) (p : Mat3 ℝ) (zero : Bool) :
    (c.periodicImages p 1 zero).length = if zero then 9 else 8 := by
  unfold Cell.periodicImages
  rw [List.length_map, C14.length_imageIndices]
  cases zero <;> simp

/-- the document shows the cell and its 8 neighbours, then for every placement of the state its
Cartesian transform followed by exactly its 8 nearest lattice images, in order -/
theorem svg_uses_spec (s : Crystal ℝ) :
    s.svgUses =
      (s.cell.periodicImages Mat3.identity 1 true).map (svgOf "#cell" "") ++
      s.relPositions.flatMap (fun p =>
        svgOf "#mol" "blue" (s.cell.toCartesianIsometry p) ::
          (s.cell.periodicImages p 1 false).map (svgOf "#mol" "green")) ∧
    s.svgUses.length = 9 + 9 * s.relPositions.length := by
  refine ⟨rfl, ?_⟩
  simp [Crystal.svgUses, length_images, List.length_flatMap, Nat.mul_comm]

/-- each green entry is the blue entry of its placement translated by a lattice vector
`n·A + m·B`, `(n, m) ≠ (0, 0)`, `|n|, |m| ≤ 1`, orientation unchanged (C14) -/
theorem svg_images_are_translates (s : Crystal ℝ) (p : Mat3 ℝ) (hp : p ∈ s.relPositions)
    (haff : p.m20 = 0 ∧ p.m21 = 0 ∧ (p.m22 = 0 ∨ p.m22 = 1))
    (u : Mat3 ℝ) (hu : u ∈ s.cell.periodicImages p 1 false) :
    ∃ n m : Int, (n, m) ≠ (0, 0) ∧ -1 ≤ n ∧ n ≤ 1 ∧ -1 ≤ m ∧ m ≤ 1 ∧
      u.m00 = p.m00 ∧ u.m01 = p.m01 ∧ u.m10 = p.m10 ∧ u.m11 = p.m11 ∧
      u.m02 = (s.cell.toCartesianIsometry p).m02 + (n : ℝ) * (C14.vecA s.cell).1 + (m : ℝ) * (C14.vecB s.cell).1 ∧
      u.m12 = (s.cell.toCartesianIsometry p).m12 + (n : ℝ) * (C14.vecA s.cell).2 + (m : ℝ) * (C14.vecB s.cell).2 := by
  have _ := hp  -- `hp` is not needed
  obtain ⟨n, m, hmem, rfl⟩ := C14.images_are_translates s.cell p haff 1 false u hu
  obtain ⟨h1, h2, h5⟩ := (C14.mem_imageIndices _ _ _ _).mp hmem
  exact ⟨n, m, fun hnm => h5 rfl (Prod.mk.inj hnm), (abs_le.mp h1).1, (abs_le.mp h1).2,
    (abs_le.mp h2).1, (abs_le.mp h2).2, rfl, rfl, rfl, rfl, rfl, rfl⟩

end PV.Proofs.C11
