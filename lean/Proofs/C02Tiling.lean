/-
  Proofs/C02Tiling.lean — the tiling argument behind the hypothesis of `PV.Proofs.C02.covered_le_cell`, about
  sets in `Fin 2 → ℝ` and a basis of the lattice (nothing here mentions the model's `Cell` or `Crystal`).

  A periodic packing cannot be denser than 1: if all lattice translates of `N` measurable copies
  of a shape are pairwise disjoint, then the total area of the `N` copies is at most the area of
  the unit cell (the covolume of the lattice).  This is the contrapositive of Blichfeldt's principle
  (`MeasureTheory.exists_pair_mem_lattice_not_disjoint_vadd`) applied to the union of the copies,
  with the half-open parallelogram `ZSpan.fundamentalDomain b` as fundamental domain.
-/
import Proofs.C02Measure
import Mathlib.Algebra.Module.ZLattice.Basic
import Mathlib.MeasureTheory.Group.GeometryOfNumbers
import Mathlib.MeasureTheory.Measure.Haar.OfBasis
import Mathlib.LinearAlgebra.Matrix.Determinant.Basic

namespace PV.Proofs.C02Tiling
open MeasureTheory Module
open scoped Pointwise

abbrev Plane := Fin 2 → ℝ

abbrev lattice (b : Basis (Fin 2) ℝ Plane) : AddSubgroup Plane :=
  (Submodule.span ℤ (Set.range b)).toAddSubgroup

instance lattice_countable (b : Basis (Fin 2) ℝ Plane) : Countable (lattice b) :=
  inferInstanceAs <| Countable (Submodule.span ℤ (Set.range (b : Fin 2 → Plane)))

/-- the contrapositive of Blichfeldt's principle; `|det|` is the covolume of the lattice -/
theorem packing_area_le_det (b : Basis (Fin 2) ℝ Plane) (s : Set Plane)
    (hs : NullMeasurableSet s volume)
    (hdisj : ∀ x y : lattice b, x ≠ y → Disjoint (x +ᵥ s) (y +ᵥ s)) :
    volume s ≤ ENNReal.ofReal |Matrix.det (Matrix.of b)| := by
  rw [← ZSpan.volume_fundamentalDomain b]
  by_contra h
  obtain ⟨x, y, hxy, hnd⟩ := exists_pair_mem_lattice_not_disjoint_vadd
    (ZSpan.isAddFundamentalDomain' b volume) hs (not_le.1 h)
  exact hnd (hdisj x y hxy)

/-- C02, `score ≤ 1`: the packing fraction of a periodic packing is at most 1 -/
theorem packing_fraction_le_one (b : Basis (Fin 2) ℝ Plane) (N : ℕ) (copy : Fin N → Set Plane)
    (hm : ∀ i, MeasurableSet (copy i)) (area cellArea : ℝ)
    (ha : ∀ i, (volume (copy i)).toReal = area)
    (hc : (volume (ZSpan.fundamentalDomain b)).toReal = cellArea)
    (hdisj : ∀ (i j : Fin N) (x y : lattice b), (i, x) ≠ (j, y) →
      Disjoint (x +ᵥ copy i) (y +ᵥ copy j)) :
    (N : ℝ) * area ≤ cellArea ∧ 0 < cellArea ∧ area * (N : ℝ) / cellArea ≤ 1 := by
  have hfin : volume (ZSpan.fundamentalDomain b) ≠ ⊤ :=
    ZSpan.volume_fundamentalDomain b ▸ ENNReal.ofReal_ne_top
  have hpos : 0 < cellArea :=
    hc ▸ ENNReal.toReal_pos (ZSpan.measure_fundamentalDomain_ne_zero b) hfin
  have hpair : Pairwise fun i j => Disjoint (copy i) (copy j) := fun i j hij =>
    Set.disjoint_vadd_set.1 (hdisj i j 0 0 fun h => hij (Prod.ext_iff.mp h).1)
  -- translates of the union are disjoint because translates of the copies are
  have hU : volume (⋃ i, copy i) ≤ volume (ZSpan.fundamentalDomain b) := by
    rw [ZSpan.volume_fundamentalDomain b]
    refine packing_area_le_det b _ (MeasurableSet.iUnion hm).nullMeasurableSet fun x y hxy => ?_
    rw [Set.vadd_set_iUnion, Set.vadd_set_iUnion]
    exact Set.disjoint_iUnion_left.2 fun i => Set.disjoint_iUnion_right.2 fun j =>
      hdisj i j x y fun h => hxy (Prod.ext_iff.mp h).2
  have h : (N : ℝ) * area ≤ cellArea := hc ▸ C02.total_area_le volume copy hm hpair ha hfin hU
  exact ⟨h, hpos, by rwa [div_le_one hpos, mul_comm]⟩

/-- for the crate's cell `A = (a, 0)`, `B = (c, d)` the cell area is `|a * d|`. -/
theorem cellArea_lower_triangular (b : Basis (Fin 2) ℝ Plane) (a c d : ℝ)
    (hb : Matrix.of b = !![a, 0; c, d]) :
    (volume (ZSpan.fundamentalDomain b)).toReal = |a * d| := by
  rw [← measureReal_def, ZSpan.volume_real_fundamentalDomain, hb, Matrix.det_fin_two_of, zero_mul,
    sub_zero]

theorem volume_unit_cell : volume (ZSpan.fundamentalDomain (Pi.basisFun ℝ (Fin 2))) = 1 := by
  rw [ZSpan.volume_fundamentalDomain]
  have : Matrix.of (Pi.basisFun ℝ (Fin 2)) = (1 : Matrix (Fin 2) (Fin 2) ℝ) := by
    ext i j
    simp [Matrix.one_apply, Pi.single_apply, eq_comm]
  rw [this, Matrix.det_one, abs_one, ENNReal.ofReal_one]

/-- the hypotheses of `packing_fraction_le_one` can be met (empty copy, unit square cell) -/
example : (0 : ℝ) * ((1 : ℕ) : ℝ) / 1 ≤ 1 :=
  (packing_fraction_le_one (Pi.basisFun ℝ (Fin 2)) 1 (fun _ => ∅) (fun _ => MeasurableSet.empty)
    0 1 (fun _ => by simp) (by rw [volume_unit_cell]; simp)
    (fun _ _ _ _ _ => by simp)).2.2

theorem fundamentalDomain_translates_disjoint (b : Basis (Fin 2) ℝ Plane) (x y : lattice b)
    (hxy : x ≠ y) :
    Disjoint (x +ᵥ ZSpan.fundamentalDomain b) (y +ᵥ ZSpan.fundamentalDomain b) := by
  rw [Set.disjoint_left]
  intro z hx hy
  rw [Set.mem_vadd_set_iff_neg_vadd_mem] at hx hy
  -- `-x` and `-y` both move `z` into the cell, and only one lattice vector does
  have hu := (ZSpan.exist_unique_vadd_mem_fundamentalDomain b z).unique
    (y₁ := (⟨-(x : Plane), (-x).2⟩ : Submodule.span ℤ (Set.range b)))
    (y₂ := (⟨-(y : Plane), (-y).2⟩ : Submodule.span ℤ (Set.range b))) hx hy
  exact hxy (Subtype.ext (neg_injective (congrArg Subtype.val hu)))

/-- the bound is attained: the cell itself (`N = 1`, `copy 0 = F`, a NON-empty set of positive area)
satisfies all hypotheses of `packing_fraction_le_one`, with packing fraction exactly `cellArea / cellArea`. -/
example (b : Basis (Fin 2) ℝ Plane) :
    (volume (ZSpan.fundamentalDomain b)).toReal * ((1 : ℕ) : ℝ)
      / (volume (ZSpan.fundamentalDomain b)).toReal ≤ 1 :=
  (packing_fraction_le_one b 1 (fun _ => ZSpan.fundamentalDomain b)
    (fun _ => ZSpan.fundamentalDomain_measurableSet b) _ _ (fun _ => rfl) rfl
    (fun i j x y h => fundamentalDomain_translates_disjoint b x y
      (fun hxy => h (Prod.ext (Subsingleton.elim i j) hxy)))).2.2

end PV.Proofs.C02Tiling
