/-
  Proofs/SrcC03.lean — C03 stated about `PotentialState::score` as translated (src/state/potential.rs →
  Generated/FnsPotential.lean), from Proofs/C03 by Proofs/TiePotential.
-/
import Proofs.C03
import Proofs.TiePotential

namespace PV.Proofs.Source
open PV PV.Proofs.Tie

/-- **C03 about the source**: for a symmetric pair energy the translated `PotentialState::score` is
minus one half of the sum over molecules of their environment energy, per molecule -/
theorem C03_source (s : Crystal ℝ) (haff : C03.AffineRel s) (hsym : ∀ t u, C03.E s t u = C03.E s u t) :
    Gen.potential_score s =
      some (-((1/2) * ((List.range s.relPositions.length).map (C03.envEnergy s 3)).sum) / (s.totalShapes : ℝ)) := by
  rw [potential_score_tie]
  exact C03.score_per_molecule s haff hsym

end PV.Proofs.Source
