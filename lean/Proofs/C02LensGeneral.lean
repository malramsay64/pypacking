/-
  Proofs/C02LensGeneral.lean — the lens value for two discs ANYWHERE in the plane: the rigid motion that
  takes a general pair of discs to the axis-aligned pair of Proofs/C02Lens.lean preserves Lebesgue measure,
  so `MolecularShape2::circle_overlap` (the model's `circleOverlap`) is the measure of the intersection of
  any two discs of positive radius.
-/
import Proofs.C02Lens
import Mathlib.MeasureTheory.Measure.Lebesgue.EqHaar
import Mathlib.MeasureTheory.Group.Measure
import Mathlib.LinearAlgebra.Determinant
import Mathlib.LinearAlgebra.Matrix.ToLin
import Mathlib.LinearAlgebra.Matrix.Determinant.Basic
import Mathlib.LinearAlgebra.Basis.Fin

namespace PV.Proofs.C02Lens
open MeasureTheory Set

noncomputable def rot (c s : ℝ) : (ℝ × ℝ) →ₗ[ℝ] (ℝ × ℝ) :=
  Matrix.toLin (Module.Basis.finTwoProd ℝ) (Module.Basis.finTwoProd ℝ) !![c, s; -s, c]

theorem rot_apply (c s : ℝ) (p : ℝ × ℝ) :
    rot c s p = (c * p.1 + s * p.2, -s * p.1 + c * p.2) :=
  Matrix.toLin_finTwoProd_apply _ _ _ _ _

theorem det_rot (c s : ℝ) : LinearMap.det (rot c s) = c ^ 2 + s ^ 2 := by
  rw [rot, LinearMap.det_toLin, Matrix.det_fin_two_of]
  ring

/-- instance search does not see that `volume` on ℝ × ℝ is the product measure -/
local instance volume_prod_isAddHaarMeasure : Measure.IsAddHaarMeasure (volume : Measure (ℝ × ℝ)) :=
  Measure.prod.instIsAddHaarMeasure (volume : Measure ℝ) (volume : Measure ℝ)

theorem volume_preimage_rot (c s : ℝ) (h : c ^ 2 + s ^ 2 = 1) (A : Set (ℝ × ℝ)) :
    volume (rot c s ⁻¹' A) = volume A := by
  have hdet : LinearMap.det (rot c s) = 1 := (det_rot c s).trans h
  rw [Measure.addHaar_preimage_linearMap volume (hdet ▸ one_ne_zero) A, hdet, inv_one, abs_one,
    ENNReal.ofReal_one, one_mul]

noncomputable def motion (c s ax ay : ℝ) (p : ℝ × ℝ) : ℝ × ℝ := rot c s (p + (-ax, -ay))

theorem volume_preimage_motion (c s ax ay : ℝ) (h : c ^ 2 + s ^ 2 = 1) (A : Set (ℝ × ℝ)) :
    volume (motion c s ax ay ⁻¹' A) = volume A :=
  (measure_preimage_add_right volume (-ax, -ay) (rot c s ⁻¹' A)).trans (volume_preimage_rot c s h A)

/-- `hx`, `hy`: the rotation takes `(bx − ax, by − ay)` to `(d, 0)` -/
theorem motion_preimage_disc (c s ax ay bx by' d r : ℝ) (h : c ^ 2 + s ^ 2 = 1)
    (hx : c * d = bx - ax) (hy : s * d = by' - ay) :
    motion c s ax ay ⁻¹' disc d 0 r = disc bx by' r := by
  obtain rfl : bx = ax + c * d := by linarith
  obtain rfl : by' = ay + s * d := by linarith
  ext ⟨x, y⟩
  simp only [motion, mem_preimage, rot_apply, disc, mem_ofPred_eq, Prod.mk_add_mk, sub_zero]
  rw [show (c * (x + -ax) + s * (y + -ay) - d) ^ 2 + (-s * (x + -ax) + c * (y + -ay)) ^ 2 =
      (x - (ax + c * d)) ^ 2 + (y - (ay + s * d)) ^ 2 by
    linear_combination ((x - ax) ^ 2 + (y - ay) ^ 2 - d ^ 2) * h]

theorem volume_disc (cx cy r : ℝ) (hr : 0 < r) :
    volume (disc cx cy r) = ENNReal.ofReal (Real.pi * r ^ 2) := by
  rw [← motion_preimage_disc 1 0 cx cy cx cy 0 r (by norm_num) (by ring) (by ring),
    volume_preimage_motion 1 0 cx cy (by norm_num), volume_disc_axis 0 r hr]

theorem volume_inter_eq_axis (ax ay bx by' r1 r2 c s d : ℝ) (h : c ^ 2 + s ^ 2 = 1)
    (hx : c * d = bx - ax) (hy : s * d = by' - ay) :
    volume (disc ax ay r1 ∩ disc bx by' r2) = volume (disc 0 0 r1 ∩ disc d 0 r2) := by
  rw [← motion_preimage_disc c s ax ay ax ay 0 r1 h (by ring) (by ring),
    ← motion_preimage_disc c s ax ay bx by' d r2 h hx hy, ← preimage_inter,
    volume_preimage_motion c s ax ay h]

/-- every vector is its length times a unit vector (any unit vector when it is 0) -/
theorem exists_direction (u v : ℝ) :
    ∃ c s : ℝ, c ^ 2 + s ^ 2 = 1 ∧ c * Real.sqrt (u * u + v * v) = u ∧
      s * Real.sqrt (u * u + v * v) = v := by
  have hn : 0 ≤ u * u + v * v := add_nonneg (mul_self_nonneg u) (mul_self_nonneg v)
  rcases (Real.sqrt_nonneg (u * u + v * v)).eq_or_lt with h0 | hpos
  · obtain ⟨hu, hv⟩ := mul_self_add_mul_self_eq_zero.1 ((Real.sqrt_eq_zero hn).1 h0.symm)
    exact ⟨1, 0, by norm_num, by rw [← h0, hu, mul_zero], by rw [hv, zero_mul]⟩
  · refine ⟨u / _, v / _, ?_, div_mul_cancel₀ _ hpos.ne', div_mul_cancel₀ _ hpos.ne'⟩
    rw [div_pow, div_pow, ← add_div, Real.sq_sqrt hn, pow_two, pow_two]
    exact div_self (Real.sqrt_pos.1 hpos).ne'

/-- for any two discs of positive radius, wherever their centres are (coincident centres included), the
Lebesgue measure of the intersection is what `circle_overlap` computes -/
theorem volume_inter_eq_circleOverlap_general (a b : Atom2 ℝ) (ha : 0 < a.r) (hb : 0 < b.r) :
    (volume (disc a.x a.y a.r ∩ disc b.x b.y b.r)).toReal = circleOverlap a b := by
  obtain ⟨c, s, h, hx, hy⟩ := exists_direction (b.x - a.x) (b.y - a.y)
  rw [C02.circleOverlap_eq, volume_inter_eq_axis a.x a.y b.x b.y a.r b.r c s _ h hx hy]
  exact volume_inter_eq_lensArea a.r b.r _ ha hb (Real.sqrt_nonneg _)

end PV.Proofs.C02Lens
