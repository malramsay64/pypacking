/-
  Proofs/TieWrap.lean — translator tie for the wrap of `Transform2::periodic` (src/transform.rs →
  Generated/FnsWrap.lean): over the reals it is the model's `wrap` on both coordinates (C04, C15).
-/
import Lemmas.TieTactics
import Generated.FnsWrap

namespace PV.Proofs.Tie
open PV

theorem declared_translated_wrap : Gen.fnsWrapUntranslated = [] := by decide

@[tie]
theorem periodic_position_tie (p : ℝ × ℝ) (period offset : ℝ) :
    Gen.transform_periodic_position p period offset = (wrap period offset p.1, wrap period offset p.2) := by
  unfold Gen.transform_periodic_position wrap
  tie_close

end PV.Proofs.Tie
