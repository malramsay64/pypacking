/-
  Proofs/TieImages.lean — translator tie for the lattice part of src/cell.rs (`to_cartesian_point`,
  `to_cartesian_isometry`, `to_cartesian_translate`, `periodic_images`): the definitions regenerated from the
  source (`iproduct!` over `-shells..=shells`, the `filter` / `map` closures) are the model functions of
  C14 / C04.
-/
import Proofs.TieCell
import Generated.FnsLattice

namespace PV.Proofs.Tie
open PV

theorem declared_translated_images : Gen.fnsLatticeUntranslated = [] := by decide

@[tie]
theorem to_cartesian_point_tie (c : Cell ℝ) (p : Pt ℝ) :
    Gen.mkPt (Gen.cell_to_cartesian_point c p) = c.toCartesianPoint p := by
  unfold Gen.cell_to_cartesian_point Gen.mkPt Cell.toCartesianPoint
  tie_close

@[tie]
theorem to_cartesian_isometry_tie (c : Cell ℝ) (t : Mat3 ℝ) :
    Gen.cell_to_cartesian_isometry c t = c.toCartesianIsometry t := by
  unfold Gen.cell_to_cartesian_isometry Cell.toCartesianIsometry
  tie_close

@[tie]
theorem to_cartesian_translate_tie (c : Cell ℝ) (t : Mat3 ℝ) (x y : Int) :
    Gen.cell_to_cartesian_translate c t x y = c.toCartesianTranslate t x y := by
  unfold Gen.cell_to_cartesian_translate Cell.toCartesianTranslate Gen.cell_to_cartesian_point Gen.mkPt
    Cell.toCartesianPoint
  tie_close

@[tie]
theorem periodic_images_tie (c : Cell ℝ) (t : Mat3 ℝ) (k : Int) (zero : Bool) :
    Gen.cell_periodic_images c t k zero = c.periodicImages t k zero := by
  unfold Gen.cell_periodic_images Cell.periodicImages imageIndices
  simp only [to_cartesian_translate_tie]
  -- the same index pairs pass the filter, however the test for the untranslated copy is written
  congr 1
  apply List.filter_congr
  rintro ⟨x, y⟩ _
  rw [Bool.eq_iff_iff]
  cases zero <;> simp

end PV.Proofs.Tie
