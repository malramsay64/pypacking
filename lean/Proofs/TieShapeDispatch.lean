/-
  Proofs/TieShapeDispatch.lean — the static dispatch of the generic shape methods (`S::intersects`,
  `area`, `enclosing_radius`, `transform`, `energy`) onto the translated functions of the three shape types
  is the model's `Shape.*` (from TieHardShape / TieLJShape / TieOps).  The crate dispatches by the type
  parameter `S`, the model by the constructor of `Shape`; Generated/FnsShapeDispatch.lean is therefore not
  read off the source but a constant text of tools/rs2lean.py (a method a shape type does not have is 0 /
  `false`, as in the model).
-/
import Proofs.TieHardShape
import Proofs.TieLJShape
import Proofs.TieOps
import Generated.FnsShapeDispatch

namespace PV.Proofs.Tie
open PV

@[tie]
theorem shape_intersects_tie (s o : Shape ℝ) : Gen.shape_intersects s o = s.intersects o := by
  unfold Gen.shape_intersects
  cases s <;> cases o <;> tie_close [Shape.intersects]

@[tie]
theorem shape_area_tie (s : Shape ℝ) : Gen.shape_area s = s.area := by
  unfold Gen.shape_area
  cases s <;> tie_close [Shape.area]

@[tie]
theorem shape_radius_tie (s : Shape ℝ) : Gen.shape_enclosing_radius s = s.enclosingRadius := by
  unfold Gen.shape_enclosing_radius
  cases s <;> tie_close

@[tie]
theorem shape_transform_tie (s : Shape ℝ) (t : Mat3 ℝ) : Gen.shape_transform s t = s.transform t := by
  unfold Gen.shape_transform
  cases s <;> tie_close [Shape.transform]

@[tie]
theorem shape_energy_tie (s o : Shape ℝ) : Gen.shape_energy s o = s.energy o := by
  unfold Gen.shape_energy
  cases s <;> cases o <;> tie_close [Shape.energy]

end PV.Proofs.Tie
