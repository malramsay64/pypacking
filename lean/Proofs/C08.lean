/-
  Proofs/C08.lean — C08: optimisation keeps parameters in range and the cell in its crystal family.
  Carrier ℝ.  Bounds and degrees of freedom come from `Generated.Bounds` (regenerated from
  src/cell.rs / src/site.rs on every run); the `declared_*` theorems say that they are the values
  the property names.
-/
import Lemmas.C1908Run
import Mathlib.Tactic.Positivity

namespace PV.Proofs.C08
open PV

variable {G : Type}

/-- cell length ∈ [0.01, current], side ratio ∈ [0.1, current] for oblique and rectangular cells,
cell angle ∈ [π/6, π/2] for oblique cells only; nothing else is free -/
theorem declared_cell_bounds :
    Generated.cellDofCommon = [⟨.length, .lit 1 100, .var "length"⟩] ∧
    Generated.cellDofFamily .Monoclinic =
      [⟨.ratio, .lit 1 10, .var "ratio"⟩, ⟨.angle, .div .pi (.lit 6 1), .div .pi (.lit 2 1)⟩] ∧
    Generated.cellDofFamily .Orthorhombic = [⟨.ratio, .lit 1 10, .var "ratio"⟩] ∧
    Generated.cellDofFamily .Hexagonal = [] ∧ Generated.cellDofFamily .Tetragonal = [] := by
  decide

/-- site coordinates ∈ [-1/2, 1/2], orientation ∈ [0, 2π / rot_symmetry] -/
theorem declared_site_bounds :
    Generated.siteDofSpecs =
      [⟨.x, .neg (.lit 1 2), .lit 1 2⟩, ⟨.y, .neg (.lit 1 2), .lit 1 2⟩,
       ⟨.rot, .lit 0 1, .div (.mul (.lit 2 1) .pi) (.var "rot_symmetry")⟩] ∧
    Generated.siteDof = [true, true, true] ∧ Generated.boundsUnrecognised = [] := by
  decide

/-- initial cells are right-angled for the two families the tables use, with ratio 1 -/
theorem declared_initial_cell :
    Generated.fromFamilyAngle .Monoclinic = .div .pi (.lit 2 1) ∧
    Generated.fromFamilyAngle .Orthorhombic = .div .pi (.lit 2 1) ∧
    Generated.fromFamilyRatio = .lit 1 1 := by
  decide

theorem clamp_in_range (lo hi x : ℝ) (h : lo ≤ hi) : lo ≤ clamp lo hi x ∧ clamp lo hi x ≤ hi :=
  C1908.clamp_mem lo hi x h

def InRange (heap : Array ℝ) (hs : Array (Handle ℝ)) : Prop :=
  (∀ i (hi : i < hs.size), (hs[i]).addr < heap.size ∧ (hs[i]).min ≤ (hs[i]).max ∧
      (hs[i]).min ≤ hget heap (hs[i]).addr ∧ hget heap (hs[i]).addr ≤ (hs[i]).max) ∧
  (∀ i j (hi : i < hs.size) (hj : j < hs.size), i ≠ j → (hs[i]).addr ≠ (hs[j]).addr)

def Unhandled (hs : Array (Handle ℝ)) (a : Nat) : Prop := ∀ i (hi : i < hs.size), (hs[i]).addr ≠ a

/-- **C08 (invariant)**: if every parameter starts inside its range then after ANY history every
parameter with a handle is inside its range (at every step, for every proposal, and in the
result), and every parameter without a handle is unchanged. -/
theorem C08_invariant (score : Nat → Array ℝ → Option ℝ) (c : Cfg ℝ)
    (next : Nat → G → (Nat × ℝ × ℝ) × G) (g : G) (heap : Array ℝ) (hs : Array (Handle ℝ))
    (hin : InRange heap hs) (r : Run ℝ) (h : optimise score c next g heap hs = .ok r) :
    (r.heap.size = heap.size) ∧
    (∀ i (hi : i < hs.size), (hs[i]).min ≤ hget r.heap (hs[i]).addr ∧ hget r.heap (hs[i]).addr ≤ (hs[i]).max) ∧
    (∀ a, Unhandled hs a → r.heap[a]? = heap[a]?) ∧
    (∀ ev ∈ r.events, ∀ i (hi : i < hs.size),
        (hs[i]).min ≤ hget ev.proposal (hs[i]).addr ∧ hget ev.proposal (hs[i]).addr ≤ (hs[i]).max) := by
  obtain ⟨hfin, hev⟩ := C1908.optimise_inv hin h
  refine ⟨hfin.size, hfin.range, hfin.frame, fun ev hmem => ?_⟩
  obtain ⟨loop, st, g, st', hI, s⟩ := hev ev hmem
  obtain ⟨_, -, hprop⟩ := hI.proposal hin s
  exact hprop.range

theorem cellHandles_eq (heap : Array ℝ) (fam : Family) :
    cellHandles heap fam =
      ⟨0, hget heap 0, 1/100, hget heap 0⟩ ::
        match fam with
        | .Monoclinic => [⟨1, hget heap 1, 1/10, hget heap 1⟩, ⟨2, hget heap 2, Real.pi/6, Real.pi/2⟩]
        | .Orthorhombic => [⟨1, hget heap 1, 1/10, hget heap 1⟩]
        | _ => [] := by
  cases fam <;>
    simp [cellHandles, Generated.cellDofCommon, Generated.cellDofFamily, Handle.new, BExpr.eval, cellEnv,
      Param.cellAddr]

theorem siteHandles_eq (heap : Array ℝ) (base rot : Nat) :
    siteHandles heap base rot =
      [⟨base, hget heap base, -(1/2), 1/2⟩, ⟨base + 1, hget heap (base + 1), -(1/2), 1/2⟩,
       ⟨base + 2, hget heap (base + 2), 0, 2 * Real.pi / (rot : ℝ)⟩] := by
  simp [siteHandles, Generated.siteDofSpecs, Generated.siteDof, Handle.new, BExpr.eval, Param.siteOffset]

theorem mem_cellHandles {heap : Array ℝ} {fam : Family} {h : Handle ℝ} :
    h ∈ cellHandles heap fam ↔
      h = ⟨0, hget heap 0, 1/100, hget heap 0⟩ ∨
      (fam = .Monoclinic ∨ fam = .Orthorhombic) ∧ h = ⟨1, hget heap 1, 1/10, hget heap 1⟩ ∨
      fam = .Monoclinic ∧ h = ⟨2, hget heap 2, Real.pi/6, Real.pi/2⟩ := by
  rw [cellHandles_eq]
  cases fam <;> simp

theorem stateHandles_range (heap : Array ℝ) (fam : Family) (nSites : Nat)
    (hl : 1/100 ≤ hget heap 0) (hρ : 1/10 ≤ hget heap 1) :
    ∀ h ∈ stateHandles heap fam nSites, h.min ≤ h.max := by
  have hpi := Real.pi_pos
  intro h hmem
  rcases List.mem_append.mp hmem with hc | hs
  · rcases mem_cellHandles.mp hc with rfl | ⟨-, rfl⟩ | ⟨-, rfl⟩
    · exact hl
    · exact hρ
    · linarith
  · obtain ⟨k, -, hk⟩ := List.mem_flatMap.mp hs
    rw [siteHandles_eq, Nat.cast_one, div_one] at hk
    simp only [List.mem_cons, List.not_mem_nil, or_false] at hk
    rcases hk with rfl | rfl | rfl
    · exact neg_le_self one_half_pos.le
    · exact neg_le_self one_half_pos.le
    · exact mul_nonneg zero_le_two hpi.le

theorem site_addrs_eq (n : Nat) :
    ((List.range n).flatMap fun k => [3 + 3 * k, 3 + 3 * k + 1, 3 + 3 * k + 2]) =
      List.range' 3 (3 * n) := by
  induction n with
  | zero => rfl
  | succ n ih =>
    rw [List.range_succ, List.flatMap_append, ih, List.flatMap_singleton, Nat.mul_succ,
      ← List.range'_append_1]
    rfl

theorem cellHandles_addrs (heap : Array ℝ) (fam : Family) :
    (cellHandles heap fam).map (·.addr) =
      List.range (match fam with | .Monoclinic => 3 | .Orthorhombic => 2 | _ => 1) := by
  rw [cellHandles_eq]
  cases fam <;> rfl

theorem stateHandles_addrs (heap : Array ℝ) (fam : Family) (nSites : Nat) :
    (stateHandles heap fam nSites).map (·.addr) =
      List.range (match fam with | .Monoclinic => 3 | .Orthorhombic => 2 | _ => 1) ++
        List.range' 3 (3 * nSites) := by
  rw [← site_addrs_eq, ← cellHandles_addrs heap]
  unfold stateHandles
  simp only [List.map_append, List.map_flatMap, siteHandles_eq, List.map_cons, List.map_nil]

/-- the handles of a crystal state satisfy the second clause of `InRange` -/
theorem stateHandles_addrs_nodup (heap : Array ℝ) (fam : Family) (nSites : Nat) :
    ((stateHandles heap fam nSites).map (·.addr)).Nodup := by
  rw [stateHandles_addrs, List.nodup_append]
  refine ⟨List.nodup_range, List.nodup_range', fun a ha b hb hab => ?_⟩
  have h1 : a < 3 := (List.mem_range.1 ha).trans_le (by cases fam <;> decide)
  have h2 := (List.mem_range'_1.1 hb).1
  omega

/-- C08, the crystal family: for every family but the oblique one no handle addresses the angle
cell (address 2), so by `C08_invariant` the angle is unchanged by any optimisation and a
rectangular cell stays rectangular. -/
theorem angle_unhandled_unless_monoclinic (heap : Array ℝ) (fam : Family) (nSites : Nat)
    (hf : fam ≠ .Monoclinic) : ∀ h ∈ stateHandles heap fam nSites, h.addr ≠ 2 := by
  intro h hmem
  have hmem' : h.addr ∈ (stateHandles heap fam nSites).map (·.addr) := List.mem_map.mpr ⟨h, hmem, rfl⟩
  rw [stateHandles_addrs, List.mem_append, List.mem_range, List.mem_range'_1] at hmem'
  have hk : (match fam with | .Monoclinic => 3 | .Orthorhombic => 2 | _ => 1) ≤ 2 := by
    cases fam with
    | Monoclinic => exact absurd rfl hf
    | _ => decide
  omega

/-- C08 over stages: the ranges re-derived at the next stage from the current values are contained
in the previous ones (`length ≤ L₀`, `ratio ≤ ρ₀`), and the current values lie in the re-derived
ranges whenever they lay in the old ones and respect the lower bounds: the invariant composes
over any number of stages. -/
theorem C08_chained (heap heap' : Array ℝ) (fam : Family)
    (hlen : 1/100 ≤ hget heap' 0 ∧ hget heap' 0 ≤ hget heap 0)
    (hrat : 1/10 ≤ hget heap' 1 ∧ hget heap' 1 ≤ hget heap 1) :
    ∀ h' ∈ cellHandles heap' fam, ∃ h ∈ cellHandles heap fam,
      h.addr = h'.addr ∧ h.min ≤ h'.min ∧ h'.max ≤ h.max ∧
      h'.min ≤ hget heap' h'.addr ∧ hget heap' h'.addr ≤ h'.max ∨ h'.addr = 2 := by
  intro h' hmem'
  rcases mem_cellHandles.1 hmem' with rfl | ⟨hf, rfl⟩ | ⟨hf, rfl⟩
  · exact ⟨_, mem_cellHandles.2 (.inl rfl), .inl ⟨rfl, le_refl _, hlen.2, hlen.1, le_refl _⟩⟩
  · exact ⟨_, mem_cellHandles.2 (.inr (.inl ⟨hf, rfl⟩)),
      .inl ⟨rfl, le_refl _, hrat.2, hrat.1, le_refl _⟩⟩
  · exact ⟨_, mem_cellHandles.2 (.inl rfl), .inr rfl⟩

/-- the right disjunct of `C08_chained`, the angle handle: its range is the constant `[π/6, π/2]`,
the same at every stage -/
theorem C08_chained_angle (heap heap' : Array ℝ) (fam : Family) :
    ∀ h' ∈ cellHandles heap' fam, h'.addr = 2 →
      ∃ h ∈ cellHandles heap fam, h.addr = 2 ∧ h.min = h'.min ∧ h.max = h'.max ∧
        h.min = Real.pi / 6 ∧ h.max = Real.pi / 2 := by
  intro h' hmem' h2
  rcases mem_cellHandles.1 hmem' with rfl | ⟨-, rfl⟩ | ⟨hf, rfl⟩
  · cases h2
  · cases h2
  · exact ⟨_, mem_cellHandles.2 (.inr (.inr ⟨hf, rfl⟩)), rfl, rfl, rfl, rfl, rfl⟩

theorem no_degenerate_cell (length ratio angle : ℝ) (hl : 1/100 ≤ length) (hr : 1/10 ≤ ratio)
    (ha : Real.pi / 6 ≤ angle) (ha' : angle ≤ Real.pi / 2) :
    0 < length ∧ 0 < length * ratio ∧ 1/2 ≤ Real.sin angle := by
  have h1 : 0 < length := lt_of_lt_of_le (by norm_num) hl
  have h2 : 0 < ratio := lt_of_lt_of_le (by norm_num) hr
  have hpi : -(Real.pi / 2) ≤ Real.pi / 6 := (neg_nonpos.2 (by positivity)).trans (by positivity)
  refine ⟨h1, mul_pos h1 h2, ?_⟩
  rw [← Real.sin_pi_div_six]
  exact Real.sin_le_sin_of_le_of_le_pi_div_two hpi ha' ha

end PV.Proofs.C08
