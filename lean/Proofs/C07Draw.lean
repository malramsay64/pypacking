/-
  Proofs/C07Draw.lean — the random draws of the optimiser: exact uniformity of the acceptance
  threshold `gen::<f64>()`, of the step draw `gen_range(-0.5, 0.5)` and of the one-shot acceptance
  test of the index draw `Uniform::new(0, n)`, as functions of the raw 64-bit generator output.

  The floating-point operations of `Rand.genUnit` and `Rand.genRangeHalf` (Model/Rand.lean) are all
  exact, so the drawn values are the rationals `unitQ v` / `halfQ v` below.  That is not proved here
  (Lean's `Float` is opaque): the `rng unitq / halfq` requests compare the two closed forms with the
  doubles the crate draws, bit for bit.  The theorems count, among the `2^64` raw outputs, those for
  which the drawn value is below a real threshold.  The predicate counted in `index_count` is the
  test of `Rand.sampleIndex` written out: low word of `v * n` at most `zone = 2^64 - 1 - (2^64 - n) % n`,
  high word the index.
-/
import Mathlib.Data.Rat.Cast.CharZero
import Mathlib.Data.Real.Basic
import Mathlib.Algebra.Order.Floor.Semiring
import Mathlib.Data.Finset.Card
import Mathlib.Order.Interval.Finset.Nat
import Mathlib.Analysis.SpecialFunctions.Exp
import Mathlib.Tactic.LinearCombination
import Mathlib.Tactic.Ring
import Mathlib.Tactic.NormNum
import Mathlib.Tactic.Positivity

namespace PV.Proofs.C07Draw

/-- exact value of `gen::<f64>()` for raw output v -/
def unitQ (v : Nat) : ℚ := ((v >>> 11 : Nat) : ℚ) / 2 ^ 53
/-- exact value of `gen_range(-0.5, 0.5)` for raw output v -/
def halfQ (v : Nat) : ℚ := ((v >>> 12 : Nat) : ℚ) / 2 ^ 52 - 1 / 2

theorem unitQ_cast (v : ℕ) : ((unitQ v : ℚ) : ℝ) = ((v >>> 11 : ℕ) : ℝ) / 2 ^ 53 := by
  simp [unitQ]

theorem halfQ_cast (v : ℕ) : ((halfQ v : ℚ) : ℝ) = ((v >>> 12 : ℕ) : ℝ) / 2 ^ 52 - 1 / 2 := by
  simp [halfQ]

/-! ### a draw that keeps the top `c` of `b + c` raw bits, as a fraction: `(v >>> b) / 2 ^ c`

Both floating-point draws are of this kind: `unitQ` with `b = 11`, `c = 53`, and `halfQ`, shifted
by `1/2`, with `b = 12`, `c = 52`. -/

section TopBits
variable (b c : ℕ)

theorem topBits_lt_iff (v : ℕ) (x : ℝ) :
    ((v >>> b : ℕ) : ℝ) / 2 ^ c < x ↔ v < 2 ^ b * ⌈x * 2 ^ c⌉₊ := by
  rw [Nat.shiftRight_eq_div_pow, div_lt_iff₀ (by positivity), ← Nat.lt_ceil,
    Nat.div_lt_iff_lt_mul (by positivity), Nat.mul_comm]

theorem topBits_count (x : ℝ) (h1 : x ≤ 1) :
    ((Finset.range (2 ^ (b + c))).filter (fun v => ((v >>> b : ℕ) : ℝ) / 2 ^ c < x)).card
      = 2 ^ b * ⌈x * 2 ^ c⌉₊ := by
  have hc : ⌈x * 2 ^ c⌉₊ ≤ 2 ^ c := by
    rw [Nat.ceil_le]
    push_cast
    exact mul_le_of_le_one_left (by positivity) h1
  have hle : 2 ^ b * ⌈x * 2 ^ c⌉₊ ≤ 2 ^ (b + c) := by
    rw [pow_add]
    exact Nat.mul_le_mul_left _ hc
  rw [Finset.filter_congr (fun v _ => topBits_lt_iff b c v x), Finset.range_eq_Ico,
    Finset.Ico_filter_lt_of_le_right hle, Nat.card_Ico, Nat.sub_zero]

/-- exact uniformity: the share of raw outputs whose draw is below `x` is `x` rounded up to the
grid of the draw -/
theorem topBits_probability (x : ℝ) (h0 : 0 ≤ x) (h1 : x ≤ 1) :
    x ≤ (((Finset.range (2 ^ (b + c))).filter
          (fun v => ((v >>> b : ℕ) : ℝ) / 2 ^ c < x)).card : ℝ) / 2 ^ (b + c)
    ∧ (((Finset.range (2 ^ (b + c))).filter
          (fun v => ((v >>> b : ℕ) : ℝ) / 2 ^ c < x)).card : ℝ) / 2 ^ (b + c) < x + 1 / 2 ^ c := by
  have e : ((2 ^ b * ⌈x * 2 ^ c⌉₊ : ℕ) : ℝ) / 2 ^ (b + c) = (⌈x * 2 ^ c⌉₊ : ℝ) / 2 ^ c := by
    rw [pow_add, Nat.cast_mul, Nat.cast_pow, Nat.cast_ofNat, mul_div_mul_left _ _ (by positivity)]
  rw [topBits_count b c x h1, e, le_div_iff₀ (by positivity), div_lt_iff₀ (by positivity), add_mul,
    one_div, inv_mul_cancel₀ (by positivity)]
  exact ⟨Nat.le_ceil _, Nat.ceil_lt_add_one (by positivity)⟩

theorem topBits_reflect (v : ℕ) (hv : v < 2 ^ (b + c)) :
    (((2 ^ (b + c) - 1 - v) >>> b : ℕ) : ℚ) / 2 ^ c
      = 1 - 1 / 2 ^ c - ((v >>> b : ℕ) : ℚ) / 2 ^ c := by
  -- the kept bits of the complement are the complement of the kept bits
  have hq : v / 2 ^ b + 1 ≤ 2 ^ c := by
    rw [Nat.succ_le_iff, Nat.div_lt_iff_lt_mul (by positivity), Nat.mul_comm, ← pow_add]
    exact hv
  rw [pow_add] at hv
  rw [Nat.shiftRight_eq_div_pow, Nat.shiftRight_eq_div_pow, pow_add, Nat.sub_sub, Nat.add_comm 1,
    Nat.mul_sub_div _ _ _ hv, Nat.cast_sub hq]
  push_cast
  rw [sub_div, add_div, div_self (by positivity)]
  ring

theorem topBits_range (v : ℕ) (hv : v < 2 ^ (b + c)) :
    0 ≤ ((v >>> b : ℕ) : ℚ) / 2 ^ c ∧ ((v >>> b : ℕ) : ℚ) / 2 ^ c ≤ 1 - 1 / 2 ^ c := by
  refine ⟨by positivity, sub_nonneg.mp ?_⟩
  rw [← topBits_reflect b c v hv]
  positivity

end TopBits

theorem halfQ_range (v : Nat) (hv : v < 2 ^ 64) :
    -(1 / 2) ≤ halfQ v ∧ halfQ v ≤ 1 / 2 - 1 / 2 ^ 52 := by
  obtain ⟨h0, h1⟩ := topBits_range 12 52 v hv
  unfold halfQ
  exact ⟨by linear_combination h0, by linear_combination h1⟩

theorem half_count (x : ℝ) (h1 : x ≤ 1 / 2) :
    ((Finset.range (2 ^ 64)).filter (fun v => ((halfQ v : ℚ) : ℝ) < x)).card
      = 2 ^ 12 * ⌈(x + 1 / 2) * 2 ^ 52⌉₊ := by
  simp only [halfQ_cast, sub_lt_iff_lt_add]
  exact topBits_count 12 52 (x + 1 / 2) (by linear_combination h1)

/-- exact uniformity of the step draw: `P(halfQ < x)` is within `2^-52` above `x + 1/2` -/
theorem half_probability (x : ℝ) (h0 : -(1 / 2) ≤ x) (h1 : x ≤ 1 / 2) :
    x + 1 / 2
      ≤ (((Finset.range (2 ^ 64)).filter (fun v => ((halfQ v : ℚ) : ℝ) < x)).card : ℝ) / 2 ^ 64
    ∧ (((Finset.range (2 ^ 64)).filter (fun v => ((halfQ v : ℚ) : ℝ) < x)).card : ℝ) / 2 ^ 64
        < x + 1 / 2 + 1 / 2 ^ 52 := by
  simp only [halfQ_cast, sub_lt_iff_lt_add]
  exact topBits_probability 12 52 (x + 1 / 2) (by linear_combination h0) (by linear_combination h1)

/-- symmetry of the step distribution up to one grid step -/
theorem half_reflect (v : Nat) (hv : v < 2 ^ 64) :
    halfQ (2 ^ 64 - 1 - v) = -(halfQ v) - 1 / 2 ^ 52 := by
  unfold halfQ
  rw [topBits_reflect 12 52 v hv]
  ring

theorem unitQ_range (v : Nat) (hv : v < 2 ^ 64) :
    0 ≤ unitQ v ∧ unitQ v ≤ 1 - 1 / 2 ^ 53 :=
  topBits_range 11 53 v hv

theorem unit_count (p : ℝ) (h1 : p ≤ 1) :
    ((Finset.range (2 ^ 64)).filter (fun v => ((unitQ v : ℚ) : ℝ) < p)).card
      = 2 ^ 11 * ⌈p * 2 ^ 53⌉₊ := by
  simp only [unitQ_cast]
  exact topBits_count 11 53 p h1

theorem unit_probability (p : ℝ) (h0 : 0 ≤ p) (h1 : p ≤ 1) :
    p ≤ (((Finset.range (2 ^ 64)).filter (fun v => ((unitQ v : ℚ) : ℝ) < p)).card : ℝ) / 2 ^ 64
    ∧ (((Finset.range (2 ^ 64)).filter (fun v => ((unitQ v : ℚ) : ℝ) < p)).card : ℝ) / 2 ^ 64
        < p + 1 / 2 ^ 53 := by
  simp only [unitQ_cast]
  exact topBits_probability 11 53 p h0 h1

theorem accept_probability (d kt : ℝ) (hd : 0 ≤ d) (hkt : 0 < kt) :
    Real.exp (-d / kt)
      ≤ (((Finset.range (2 ^ 64)).filter
          (fun v => ((unitQ v : ℚ) : ℝ) < Real.exp (-d / kt))).card : ℝ) / 2 ^ 64
    ∧ (((Finset.range (2 ^ 64)).filter
          (fun v => ((unitQ v : ℚ) : ℝ) < Real.exp (-d / kt))).card : ℝ) / 2 ^ 64
        < Real.exp (-d / kt) + 1 / 2 ^ 53 := by
  refine unit_probability _ (Real.exp_pos _).le ?_
  rw [Real.exp_le_one_iff, neg_div, neg_nonpos]
  exact div_nonneg hd hkt.le

/-- the threshold draw `gen::<f64>()` is never below 0: every raw output meets the hypothesis `0 ≤ thr`
of `C07.worse_at_zero_rejected` (a worse move at `kT ≤ 0`: the surface is 0) -/
theorem zero_never (v : Nat) (hv : v < 2 ^ 64) : ¬ (((unitQ v : ℚ) : ℝ) < 0) :=
  not_lt.mpr (Rat.cast_nonneg.mpr (unitQ_range v hv).1)

/-- the threshold draw is always below 1: every raw output meets the hypothesis `thr < 1` of
`C07.equal_accepted` (an equal score: the surface is 1) -/
theorem one_always (v : Nat) (hv : v < 2 ^ 64) : ((unitQ v : ℚ) : ℝ) < 1 := by
  have h : unitQ v < 1 := (unitQ_range v hv).2.trans_lt (sub_lt_self 1 (by positivity))
  exact_mod_cast h

theorem mul_lt_iff_lt_ceilDiv (n a v : ℕ) (hn : 0 < n) : v * n < a ↔ v < (a + n - 1) / n := by
  rw [Nat.lt_div_iff_mul_lt hn]
  omega

/-- a window of length `n * q` holds exactly `q` multiples of `n` (`B` bounds the candidates) -/
theorem card_mul_mem_window (B n q a : ℕ) (hn : 0 < n) (hB : ∀ v, v * n < a + n * q → v < B) :
    ((Finset.range B).filter (fun v => a ≤ v * n ∧ v * n < a + n * q)).card = q := by
  have hcq : (a + n * q + n - 1) / n = (a + n - 1) / n + q := by
    rw [show a + n * q + n - 1 = a + n - 1 + n * q by omega, Nat.add_mul_div_left _ _ hn]
  have hfilter : (Finset.range B).filter (fun v => a ≤ v * n ∧ v * n < a + n * q)
      = Finset.Ico ((a + n - 1) / n) ((a + n - 1) / n + q) := by
    ext v
    rw [Finset.mem_filter, Finset.mem_range, Finset.mem_Ico, ← hcq, ← mul_lt_iff_lt_ceilDiv n _ v hn,
      ← not_lt (b := (a + n - 1) / n), ← mul_lt_iff_lt_ceilDiv n a v hn, not_lt]
    exact and_iff_right_of_imp fun h => hB v h.2
  rw [hfilter, Nat.card_Ico, Nat.add_sub_cancel_left]

/-- `m` lies in the first `w` places of the `i`-th block of length `N` -/
theorem mod_lt_and_div_eq_iff (N w m i : ℕ) (hw : w ≤ N) :
    m % N < w ∧ m / N = i ↔ i * N ≤ m ∧ m < i * N + w := by
  have h := Nat.div_add_mod m N
  constructor
  · rintro ⟨hr, rfl⟩
    rw [Nat.mul_comm]
    omega
  · rintro ⟨hlo, hhi⟩
    have hsucc : (i + 1) * N = i * N + N := Nat.succ_mul i N
    have hi : m / N = i := Nat.div_eq_of_lt_le hlo (by omega)
    rw [hi, Nat.mul_comm] at h
    omega

/-- widening multiplication of a raw output `v < N` by `n`, accepted when the low word is below the
largest multiple of `n`: every index `i < n` is the high word of exactly `N / n` accepted outputs -/
theorem index_count_lt_multiple (N n i : ℕ) (hn : 0 < n) (hi : i < n) :
    ((Finset.range N).filter (fun v => (v * n) % N < n * (N / n) ∧ (v * n) / N = i)).card
      = N / n := by
  have hq : n * (N / n) ≤ N := Nat.mul_div_le N n
  simp only [mod_lt_and_div_eq_iff N _ _ i hq]
  refine card_mul_mem_window N n _ (i * N) hn fun v hv => ?_
  have : (i + 1) * N ≤ n * N := Nat.mul_le_mul_right N hi
  rw [Nat.succ_mul] at this
  have hcomm := Nat.mul_comm N n
  exact Nat.lt_of_mul_lt_mul_right (a := n) (by omega)

/-- the zone of `Uniform::new(0, n)` ends just below the largest multiple of `n` -/
theorem zone_succ (N n : ℕ) (hn : 0 < n) (hnN : n ≤ N) :
    N - 1 - (N - n) % n + 1 = n * (N / n) := by
  have h := Nat.div_add_mod N n
  have hz : (N - n) % n = N % n := by
    rw [← Nat.add_mod_right, Nat.sub_add_cancel hnN]
  have := Nat.mod_lt N hn
  omega

/-- the same with the acceptance test as `Uniform::new(0, n)` writes it, low word `≤ zone`, for any
word size `N` -/
theorem index_count_zone (N n i : ℕ) (hn : 1 ≤ n) (hnN : n ≤ N) (hi : i < n) :
    ((Finset.range N).filter
        (fun v => (v * n) % N ≤ N - 1 - (N - n) % n ∧ (v * n) / N = i)).card
      = (N - 1 - (N - n) % n + 1) / n
    ∧ n ∣ N - 1 - (N - n) % n + 1 := by
  simp only [← Nat.lt_add_one_iff, zone_succ N n hn hnN, Nat.mul_div_cancel_left _ hn]
  exact ⟨index_count_lt_multiple N n i hn hi, Dvd.intro _ rfl⟩

/-- every index `i < n` is produced by the same number `(zone + 1) / n` of accepted raw outputs -/
theorem index_count (n i : ℕ) (hn : 1 ≤ n) (hnN : n < 2 ^ 64) (hi : i < n) :
    ((Finset.range (2 ^ 64)).filter
        (fun v => (v * n) % 2 ^ 64 ≤ 2 ^ 64 - 1 - (2 ^ 64 - n) % n ∧ (v * n) / 2 ^ 64 = i)).card
      = (2 ^ 64 - 1 - (2 ^ 64 - n) % n + 1) / n
    ∧ n ∣ 2 ^ 64 - 1 - (2 ^ 64 - n) % n + 1 :=
  index_count_zone (2 ^ 64) n i hn hnN.le hi

example : unitQ (2 ^ 63) = 1 / 2 := by
  norm_num [unitQ, Nat.shiftRight_eq_div_pow]

example : unitQ 0 = 0 := by
  norm_num [unitQ]

example : unitQ (2 ^ 64 - 1) = 1 - 1 / 2 ^ 53 := by
  norm_num [unitQ, Nat.shiftRight_eq_div_pow]

example : halfQ 0 = -1 / 2 := by
  norm_num [halfQ]

example : halfQ (2 ^ 63) = 0 := by
  norm_num [halfQ, Nat.shiftRight_eq_div_pow]

example : halfQ (2 ^ 64 - 1) = 1 / 2 - 1 / 2 ^ 52 := by
  norm_num [halfQ, Nat.shiftRight_eq_div_pow]

example : ((Finset.range (2 ^ 64)).filter (fun v => ((unitQ v : ℚ) : ℝ) < 1 / 2)).card
    = 2 ^ 63 := by
  have h : ((1 : ℝ) / 2) * 2 ^ 53 = ((2 ^ 52 : ℕ) : ℝ) := by norm_num
  rw [unit_count (1 / 2) (by norm_num), h, Nat.ceil_natCast]
  norm_num

example : ((Finset.range (2 ^ 64)).filter (fun v => ((halfQ v : ℚ) : ℝ) < 0)).card
    = 2 ^ 63 := by
  have h : ((0 : ℝ) + 1 / 2) * 2 ^ 52 = ((2 ^ 51 : ℕ) : ℝ) := by norm_num
  rw [half_count 0 (by norm_num), h, Nat.ceil_natCast]
  norm_num

/-- `n = 3`: the zone is `2^64 - 2`, and each of the three indices gets `(2^64 - 1) / 3` outputs -/
example : ((Finset.range (2 ^ 64)).filter
      (fun v => (v * 3) % 2 ^ 64 ≤ 2 ^ 64 - 1 - (2 ^ 64 - 3) % 3 ∧ (v * 3) / 2 ^ 64 = 1)).card
    = 6148914691236517205 := by
  rw [(index_count 3 1 (by norm_num) (by norm_num) (by norm_num)).1]
  norm_num

end PV.Proofs.C07Draw
