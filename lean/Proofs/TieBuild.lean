/-
  Proofs/TieBuild.lean — translator tie for the schedule arithmetic of `BuildOptimiser::build` (inner steps, loop
  count, cooling factor; src/optimisation.rs → Generated/FnsBuild.lean): what the model's `Builder.build` stores in
  the configuration it returns (C05, C18, C20).
-/
import Lemmas.TieTactics
import Lemmas.Optimiser
import Generated.FnsBuild

namespace PV.Proofs.Tie
open PV

theorem declared_translated_build : Gen.fnsBuildUntranslated = [] := by decide

/-- the loop count the cooling exponent is derived from is the number of outer loops the run makes -/
theorem build_tie (b : Builder ℝ) (c : Cfg ℝ) (h : b.build = .ok c) :
    Gen.build_inner_steps b = c.inner ∧ Gen.build_loops b = Nat.max (c.steps / c.inner) 1 ∧
      Gen.build_kt_ratio b = c.ktRatio := by
  obtain ⟨seed, -, rfl⟩ := Builder.build_eq_ok_iff.1 h
  refine ⟨rfl, rfl, ?_⟩
  unfold Gen.build_kt_ratio
  cases b.ktRatio <;> cases b.ktFinish <;> tie_close

theorem build_inner_tie (b : Builder ℝ) (c : Cfg ℝ) (h : b.build = .ok c) : Gen.build_inner_steps b = c.inner :=
  (build_tie b c h).1

theorem build_loops_tie (b : Builder ℝ) (c : Cfg ℝ) (h : b.build = .ok c) :
    Gen.build_loops b = Nat.max (c.steps / c.inner) 1 :=
  (build_tie b c h).2.1

theorem build_kt_ratio_tie (b : Builder ℝ) (c : Cfg ℝ) (h : b.build = .ok c) : Gen.build_kt_ratio b = c.ktRatio :=
  (build_tie b c h).2.2

end PV.Proofs.Tie
