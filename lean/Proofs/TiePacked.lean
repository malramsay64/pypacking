/-
  Proofs/TiePacked.lean — translator tie for src/state/packed.rs: `total_shapes`,
  `relative_positions`, `cartesian_positions`, `check_intersection` (both loop nests, the shell rule,
  the centre-distance prefilter) and `score` as regenerated from the source are the model's
  `Crystal.{totalShapes, relPositions, cartPositions, checkIntersection, scoreHard}` (C01, C02).
-/
import Lemmas.TieLists
import Proofs.TieImages
import Proofs.TieSite
import Proofs.TieShapeDispatch
import Generated.FnsPacked

namespace PV.Proofs.Tie
open PV

theorem declared_translated_packed : Gen.fnsPackedUntranslated = [] := by decide

@[tie]
theorem packed_total_shapes_tie (s : Crystal ℝ) : Gen.packed_total_shapes s = s.totalShapes := by
  unfold Gen.packed_total_shapes Crystal.totalShapes
  tie_close

@[tie]
theorem packed_relative_positions_tie (s : Crystal ℝ) : Gen.packed_relative_positions s = s.relPositions := by
  unfold Gen.packed_relative_positions Crystal.relPositions
  tie_close

@[tie]
theorem packed_cartesian_positions_tie (s : Crystal ℝ) : Gen.packed_cartesian_positions s = s.cartPositions := by
  unfold Gen.packed_cartesian_positions Crystal.cartPositions
  tie_close

@[tie]
theorem packed_check_intersection_tie (s : Crystal ℝ) :
    Gen.packed_check_intersection s = s.checkIntersection := by
  unfold Gen.packed_check_intersection Crystal.checkIntersection Crystal.shells
  -- the in-cell loop nest visits the model's ordered pairs
  have hpairs := any_enumerate_skip (fun a b : Shape ℝ => a.intersects b)
    (s.cartPositions.map fun p => s.shape.transform p)
  -- the shell and prefilter factors the model evaluates are the generated ones (both 2 by
  -- `C01.declared_shell_rule`), the literals of the translated body
  tie_close [hpairs, Generated.packedShellFactor, Generated.packedPrefilterFactor]

@[tie]
theorem packed_score_tie (s : Crystal ℝ) : Gen.packed_score s = s.scoreHard := by
  unfold Gen.packed_score Crystal.scoreHard
  tie_close

end PV.Proofs.Tie
