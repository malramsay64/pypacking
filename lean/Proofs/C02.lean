/-
  Proofs/C02.lean — C02: the hard-packing score is the true packing fraction.  Carrier ℝ.

  What the code computes, as formulas: the score is `area(shape) · N / area(cell)` with the cell area
  `|A × B|` (C14); the polygon area formula equals the shoelace area of the outline the constructor
  produces (and `(n/2)·sin(2π/n)` for the regular n-gon); the disc-union formula is the sum of the disc
  areas minus the pairwise lens terms `circleOverlap = lensArea` of radii and distance.  What these
  formulas mean as measures is in Proofs/C02Measure.lean.
-/
import Lemmas.ListSums
import Lemmas.Planar
import Model.State
import Mathlib.Tactic.Ring
import Mathlib.Tactic.Linarith
import Mathlib.Tactic.Positivity
import Mathlib.Tactic.FieldSimp
import Mathlib.Tactic.LinearCombination
import Mathlib.Data.List.Rotate
import Mathlib.Algebra.Order.BigOperators.Group.List

namespace PV.Proofs.C02

/-- a reported score is `(shape area · number of copies) / cell area` -/
theorem score_formula (s : Crystal ℝ) (v : ℝ) (h : s.scoreHard = some v) :
    v = (s.shape.area * (s.totalShapes : ℝ)) / s.cell.area ∧ s.checkIntersection = false := by
  unfold Crystal.scoreHard at h
  split at h
  · exact absurd h (by simp)
  · rename_i hc
    refine ⟨?_, by simpa using hc⟩
    exact (Option.some.inj h).symm

theorem totalShapes_eq (s : Crystal ℝ) : s.totalShapes = (s.sites.map (·.ops.length)).sum := by
  rw [Crystal.totalShapes, List.sum_eq_foldl, List.foldl_map]
  rfl

theorem score_pos (s : Crystal ℝ) (v : ℝ) (h : s.scoreHard = some v) (ha : 0 < s.shape.area)
    (hn : 0 < s.totalShapes) (hl : 0 < s.cell.length) (hr : 0 < s.cell.ratio)
    (hs : 0 < Real.sin s.cell.angle) : 0 < v := by
  obtain ⟨hv, _⟩ := score_formula s v h
  rw [hv]
  have hA : 0 < s.cell.area := by
    simp only [Cell.area, Cell.a, Cell.b, sin_real]
    positivity
  positivity

/-- twice the signed shoelace area of an edge list -/
def shoelace2 (items : List (Line2 ℝ)) : ℝ := (items.map fun l => l.sx * l.ey - l.ex * l.sy).sum

noncomputable def step (n : ℕ) : ℝ := 2 * Real.pi / (n : ℝ)

theorem step_pos (n : ℕ) (hn : 3 ≤ n) : 0 < step n := by
  unfold step
  positivity

theorem step_lt_pi (n : ℕ) (hn : 3 ≤ n) : step n < Real.pi := by
  have hn' : (2 : ℝ) < (n : ℝ) := by exact_mod_cast hn
  unfold step
  rw [div_lt_iff₀ (by linarith), mul_comm]
  exact mul_lt_mul_of_pos_left hn' Real.pi_pos

theorem n_mul_step (n : ℕ) (hn : 3 ≤ n) : (n : ℝ) * step n = 2 * Real.pi := by
  have : (n : ℝ) ≠ 0 := by exact_mod_cast (by omega : n ≠ 0)
  unfold step
  field_simp

theorem sin_step_pos (n : ℕ) (hn : 3 ≤ n) : 0 < Real.sin (step n) :=
  Real.sin_pos_of_pos_of_lt_pi (step_pos n hn) (step_lt_pi n hn)

theorem radial_vertex_norm (r θ : ℝ) (hr : 0 ≤ r) :
    dist (sc0 : ℝ) sc0 (r * Real.sin θ) (r * Real.cos θ) = r := by
  rw [C01Geom.dist_from_origin, C01Geom.nrm_smul, abs_of_nonneg hr, C01Geom.nrm_eq_sqrt,
    Real.sin_sq_add_cos_sq, Real.sqrt_one, mul_one]

/-- the edge `from_radial` builds from `((r₁, r₂), i)` with step `dθ` -/
noncomputable def edge (dθ : ℝ) (p : (ℝ × ℝ) × Nat) : Line2 ℝ :=
  ⟨p.1.1 * Real.sin ((p.2 : ℝ) * dθ), p.1.1 * Real.cos ((p.2 : ℝ) * dθ),
   p.1.2 * Real.sin ((p.2 : ℝ) * dθ + dθ), p.1.2 * Real.cos ((p.2 : ℝ) * dθ + dθ)⟩

def rpairs (rs : List ℝ) : List ((ℝ × ℝ) × Nat) := (rs.zip (rs.rotate 1)).zipIdx

def rsum (rs : List ℝ) : ℝ := ((rpairs rs).map fun p => p.1.1 * p.1.2).sum

theorem fromRadial_eq (rs : List ℝ) (hn : 3 ≤ rs.length) :
    Shape.fromRadial rs = some (.line ((rpairs rs).map (edge (step rs.length)))) := by
  unfold Shape.fromRadial
  rw [if_neg (by omega), rpairs, List.rotate_eq_drop_append_take (by omega)]
  simp [edge, step]

theorem radial_items (rs : List ℝ) (hn : 3 ≤ rs.length) (items : List (Line2 ℝ))
    (hi : Shape.fromRadial rs = some (.line items)) :
    items = (rpairs rs).map (edge (step rs.length)) := by
  rw [fromRadial_eq rs hn] at hi
  exact (Shape.line.inj (Option.some.inj hi)).symm

theorem length_rpairs (rs : List ℝ) : (rpairs rs).length = rs.length := by
  simp [rpairs]

theorem getElem_rpairs (rs : List ℝ) (k : ℕ) (hk : k < (rpairs rs).length) :
    (rpairs rs)[k] = ((rs[k]'(length_rpairs rs ▸ hk),
      rs[(k + 1) % rs.length]'(Nat.mod_lt _ (by rw [length_rpairs] at hk; omega))), k) := by
  simp [rpairs, List.getElem_rotate]

theorem mem_rpairs (rs : List ℝ) (p : (ℝ × ℝ) × Nat) (hp : p ∈ rpairs rs) :
    p.1.1 ∈ rs ∧ p.1.2 ∈ rs := by
  obtain ⟨ha, hb⟩ := List.of_mem_zip (List.fst_mem_of_mem_zipIdx (x := (p.1, p.2)) hp)
  exact ⟨ha, List.mem_rotate.1 hb⟩

theorem rsum_nonneg (rs : List ℝ) (hr : ∀ r ∈ rs, 0 ≤ r) : 0 ≤ rsum rs := by
  refine List.sum_nonneg fun x hx => ?_
  obtain ⟨p, hp, rfl⟩ := List.mem_map.mp hx
  obtain ⟨h1, h2⟩ := mem_rpairs rs p hp
  exact mul_nonneg (hr _ h1) (hr _ h2)

theorem radial_area (rs : List ℝ) (hr : ∀ r ∈ rs, 0 ≤ r) :
    (Shape.line ((rpairs rs).map (edge (step rs.length)))).area =
      (1/2) * Real.sin (step rs.length) * rsum rs := by
  simp only [Shape.area, fsum_eq_sum, List.length_map, length_rpairs, sin_real, pi_real, q_real]
  rw [List.map_map, rsum, ← List.sum_map_mul_left]
  refine congrArg List.sum (List.map_congr_left fun p hp => ?_)
  obtain ⟨h1, h2⟩ := mem_rpairs rs p hp
  simp only [Function.comp, edge]
  rw [radial_vertex_norm _ _ (hr _ h1), radial_vertex_norm _ _ (hr _ h2), step]
  push_cast
  ring

theorem radial_shoelace (rs : List ℝ) :
    shoelace2 ((rpairs rs).map (edge (step rs.length))) =
      -(Real.sin (step rs.length) * rsum rs) := by
  rw [shoelace2, List.map_map, ← neg_mul, rsum, ← List.sum_map_mul_left]
  refine congrArg List.sum (List.map_congr_left fun p _ => ?_)
  simp only [Function.comp, edge]
  -- `sin (α − (α + dθ)) = − sin dθ`, expanded by the subtraction formula
  have h := Real.sin_sub ((p.2 : ℝ) * step rs.length) ((p.2 : ℝ) * step rs.length + step rs.length)
  rw [sub_add_cancel_left, Real.sin_neg] at h
  linear_combination (-(p.1.1 * p.1.2)) * h

/-- the end angle of edge `k` is the start angle of edge `(k + 1) % n` plus whole turns -/
theorem step_angle (n k : ℕ) (hn : 3 ≤ n) :
    (k : ℝ) * step n + step n =
      ((k + 1) % n : ℕ) * step n + ((k + 1) / n : ℕ) * (2 * Real.pi) := by
  have h : (n : ℝ) * ((k + 1) / n : ℕ) + ((k + 1) % n : ℕ) = k + 1 := by
    exact_mod_cast Nat.div_add_mod (k + 1) n
  rw [← n_mul_step n hn]
  linear_combination (-step n) * h

theorem radial_outline_closed (rs : List ℝ) (hn : 3 ≤ rs.length)
    (items : List (Line2 ℝ)) (hi : Shape.fromRadial rs = some (.line items)) :
    items.length = rs.length ∧
    ∀ k (hk : k < items.length),
      (items[k]).ex = (items[(k + 1) % items.length]'(Nat.mod_lt _ (by omega))).sx ∧
      (items[k]).ey = (items[(k + 1) % items.length]'(Nat.mod_lt _ (by omega))).sy := by
  have hit := radial_items rs hn items hi
  have hlen : items.length = rs.length := by rw [hit, List.length_map, length_rpairs]
  refine ⟨hlen, fun k hk => ?_⟩
  subst hit
  simp only [List.getElem_map, getElem_rpairs, edge, List.length_map, length_rpairs]
  rw [step_angle _ k hn, Real.sin_add_nat_mul_two_pi, Real.cos_add_nat_mul_two_pi]
  exact ⟨rfl, rfl⟩

/-- C02 for radial polygons: for `n ≥ 3` non-negative radii the area formula of `LineShape` equals the
shoelace area `½ |Σ (x_s y_e − x_e y_s)|` of the outline `from_radial` produces -/
theorem radial_area_eq_shoelace (rs : List ℝ) (hn : 3 ≤ rs.length) (hr : ∀ r ∈ rs, 0 ≤ r)
    (items : List (Line2 ℝ)) (hi : Shape.fromRadial rs = some (.line items)) :
    (Shape.line items).area = (1/2) * |shoelace2 items| := by
  obtain rfl := radial_items rs hn items hi
  rw [radial_area rs hr, radial_shoelace rs, abs_neg,
    abs_of_nonneg (mul_nonneg (sin_step_pos _ hn).le (rsum_nonneg rs hr))]
  ring

/-- C02 for the regular n-gon (`polygon n`, circumradius 1): area `(n/2)·sin(2π/n)` -/
theorem polygon_area (n : Nat) (hn : 3 ≤ n) (items : List (Line2 ℝ))
    (hi : Shape.polygon n = some (.line items)) :
    (Shape.line items).area = (n : ℝ) / 2 * Real.sin (2 * Real.pi / (n : ℝ)) := by
  unfold Shape.polygon at hi
  set rs : List ℝ := List.replicate n (sc1 : ℝ)
  have hl : rs.length = n := List.length_replicate
  have hone : ∀ r ∈ rs, r = 1 := fun r hr => by
    rw [List.eq_of_mem_replicate hr, sc1, Nat.cast_one]
  have hs : rsum rs = (n : ℝ) := by
    have : (rpairs rs).map (fun p => p.1.1 * p.1.2) = (rpairs rs).map fun _ => (1 : ℝ) :=
      List.map_congr_left fun p hp => by
        rw [hone _ (mem_rpairs rs p hp).1, hone _ (mem_rpairs rs p hp).2, one_mul]
    simp [rsum, this, length_rpairs, hl]
  obtain rfl := radial_items rs (by omega) items hi
  rw [radial_area rs fun r h => (hone r h).symm ▸ zero_le_one, hl, hs, step]
  ring

/-- fewer than three sides is an error, never a shape with a bogus area -/
theorem polygon_too_few (n : Nat) (hn : n < 3) : (Shape.polygon n : Option (Shape ℝ)) = none := by
  simp [Shape.polygon, Shape.fromRadial, hn]

/-- `MolecularShape2::circle_overlap` as a function of the two radii and the distance of the centres:
the smaller disc when one contains the other, two circular segments cut off by the radical line when
the boundaries cross, nothing otherwise.  `overlapArea` is still the model's (`powi`, `acos`, `sqrt`
of the carrier); its form in real notation is `C02Lens.segArea` (`segArea_eq_model`) -/
noncomputable def lensArea (r1 r2 d : ℝ) : ℝ :=
  if d + min r1 r2 ≤ max r1 r2 then Real.pi * min r1 r2 ^ 2
  else if d < r1 + r2 then
    overlapArea r1 ((d ^ 2 + r1 ^ 2 - r2 ^ 2) / (2 * d)) +
      overlapArea r2 ((d ^ 2 + r2 ^ 2 - r1 ^ 2) / (2 * d))
  else 0

theorem circleOverlap_eq (a b : Atom2 ℝ) :
    circleOverlap a b = lensArea a.r b.r (dist a.x a.y b.x b.y) := by
  simp only [circleOverlap, lensArea, fmin_real, fmax_real, pi_real, powi_two, pow_two, sc0,
    Nat.cast_ofNat, Nat.cast_zero]

theorem mol_area_formula (items : List (Atom2 ℝ)) :
    (Shape.mol items).area =
      (items.map fun a => Real.pi * a.r ^ 2).sum - ((pairs items).map fun ab => circleOverlap ab.1 ab.2).sum := by
  simp only [Shape.area, fsum_eq_sum, pi_real, powi_two, pow_two]

theorem circle_area : (Shape.molCircle : Shape ℝ).area = Real.pi := by
  rw [Shape.molCircle, mol_area_formula]
  simp [pairs, sc1]

theorem overlap_disjoint (a b : Atom2 ℝ) (ha : 0 ≤ a.r) (hb : 0 ≤ b.r)
    (h : a.r + b.r ≤ dist a.x a.y b.x b.y) (hpos : 0 < a.r + b.r) : circleOverlap a b = 0 := by
  have _ := hpos  -- `hpos` is not needed
  rw [circleOverlap_eq, lensArea, if_neg (not_lt.2 h), ite_eq_right_iff]
  intro hc
  -- touching discs that also count as nested: the smaller radius is 0
  rw [show min a.r b.r = 0 from le_antisymm (by linarith [min_add_max a.r b.r]) (le_min ha hb)]
  ring

theorem overlap_contained (a b : Atom2 ℝ) (h : dist a.x a.y b.x b.y + min a.r b.r ≤ max a.r b.r) :
    circleOverlap a b = Real.pi * (min a.r b.r) ^ 2 := by
  rw [circleOverlap_eq, lensArea, if_pos h]

end PV.Proofs.C02
