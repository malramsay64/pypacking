/-
  Proofs/TieAccept.lean — translator tie for `MCOptimiser::{energy_surface, test_acceptance, accept_score}`
  (src/optimisation.rs → Generated/FnsAccept.lean; the threshold draw is a parameter): over the reals they are the
  model's `energySurface`, `testAcceptance`, `acceptScore` (C05, C07, C08).
-/
import Lemmas.TieTactics
import Generated.FnsAccept

namespace PV.Proofs.Tie
open PV

theorem declared_translated_accept : Gen.fnsAcceptUntranslated = [] := by decide

@[tie]
theorem energy_surface_tie (n o kt : ℝ) : Gen.energy_surface n o kt = energySurface n o kt := by
  unfold Gen.energy_surface energySurface
  tie_close

@[tie]
theorem test_acceptance_tie (thr n o kt : ℝ) : Gen.test_acceptance thr n o kt = testAcceptance thr n o kt := by
  unfold Gen.test_acceptance testAcceptance
  tie_close

/-- the acceptance test as a proposition, the form it has when the source inlines `test_acceptance` -/
@[tie]
theorem testAcceptance_iff (thr n o kt : ℝ) : testAcceptance thr n o kt = true ↔ thr < energySurface n o kt :=
  decide_eq_true_iff

@[tie]
theorem accept_score_tie (new : Option ℝ) (old kt thr : ℝ) :
    Gen.accept_score new old kt thr = acceptScore new old kt thr := by
  unfold Gen.accept_score acceptScore
  -- where the source has `energy_surface` inlined the model's is unfolded
  cases new <;> tie_close [energySurface]

end PV.Proofs.Tie
