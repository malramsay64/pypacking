/-
  Proofs/SrcC15.lean — the count clause of C15 stated about `OccupiedSite::positions` as translated
  (Generated/FnsSite.lean), from Proofs/C15 by Proofs/TieSite.
-/
import Proofs.C15
import Proofs.TieSite

namespace PV.Proofs.Source
open PV PV.Proofs.Tie

/-- **C15 about the source**: the translated `positions` yields one placement per operation -/
theorem C15_source_count (s : Site ℝ) : (Gen.site_positions s).length = s.ops.length := by
  rw [site_positions_tie]
  exact C15.positions_length s

end PV.Proofs.Source
