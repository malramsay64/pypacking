/-
  Proofs/TieInnerStep.lean — translator tie for one iteration of the inner loop of
  `MCOptimiser::optimise_state` (src/optimisation.rs): the proposal through the chosen basis handle
  (`set_sampled`), the acceptance test on the score of the modified state, and the undo of a rejected
  move (`reset_value` through the SAME handle, rejection counter).  The statements are regenerated from
  the source as a state-passing function over the handles and the heap of parameter cells, with the
  three random draws as parameters; it is the model's `stepOnce` (C05, C06, C19).
-/
import Proofs.TieAccept
import Generated.FnsInnerStep

namespace PV.Proofs.Tie
open PV

theorem declared_translated_innerstep : Gen.fnsInnerStepUntranslated = [] := by decide

/-- the leading `false` is the early-return flag every translated loop fragment returns with its state;
the inner step has no `return` -/
theorem inner_step_tie (scoreM : Nat → Array ℝ → Option ℝ) (c : Cfg ℝ) (loop : Nat) (st : OptSt ℝ)
    (idx : Nat) (sdraw thr : ℝ) (hidx : idx < st.hs.size) :
    ∃ st' ev, stepOnce scoreM c loop st (idx, sdraw, thr) = .ok (st', ev) ∧
      Gen.inner_step c st.hs st.heap (scoreM st.calls) st.cur st.kt st.ratio st.loopRej idx sdraw thr =
        (false, (st'.hs, st'.heap, st'.cur, st'.loopRej)) := by
  have hget : st.hs[idx]? = some st.hs[idx] := Array.getElem?_eq_getElem hidx
  unfold stepOnce Gen.inner_step
  simp only [hget, Option.getD_some, accept_score_tie]
  cases acceptScore (scoreM st.calls ((st.hs[idx]).setSampled st.heap (c.maxStep * st.ratio) sdraw).2) st.cur st.kt thr with
  | some s => exact ⟨_, _, rfl, rfl⟩
  | none =>
    refine ⟨_, _, rfl, ?_⟩
    simp [hidx]

end PV.Proofs.Tie
