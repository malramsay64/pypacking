/-
  Proofs/C08Init.lean — C08, last clause: every supported group, combined with any shape of
  well-defined area, starts from a valid state.  Carrier ℝ.

  `Crystal.fromGroup` is the model of `PackedState::from_group` / `PotentialState::from_group`:
  a right-angled cell of side `4·R·N` (hard) resp. `2·R·N` (LJ) with ratio 1, one site at
  `x = y = -1/2 + 1/(2N)`, orientation 0, carrying the table's `N` operations.
-/
import Proofs.C04
import Lemmas.C08InitGeom
import Mathlib.Tactic.Ring
import Mathlib.Tactic.Linarith
import Mathlib.Tactic.Positivity

namespace PV.Proofs.C08Init
open PV.C01Geom PV.C08InitGeom

/-- declared constants of the initial state (regenerated from the source on every run) -/
theorem declared_initial_state :
    Generated.packedInitSize = .mul (.mul (.lit 4 1) (.var "enclosing_radius")) (.var "num_shapes") ∧
    Generated.ljInitSize = .mul (.mul (.lit 2 1) (.var "enclosing_radius")) (.var "num_shapes") ∧
    Generated.siteInitPosition = .add (.neg (.lit 1 2)) (.div (.lit 1 2) (.var "multiplicity")) ∧
    Generated.siteInitAngle = .lit 0 1 ∧
    Generated.fromFamilyAngle .Monoclinic = .div .pi (.lit 2 1) ∧
    Generated.fromFamilyAngle .Orthorhombic = .div .pi (.lit 2 1) ∧
    Generated.fromFamilyRatio = .lit 1 1 := by
  decide

/-- the initial copies of a table in fractional coordinates, over ℚ -/
def initPts (e : TableEntry) : List (Rat × Rat) :=
  let ops := C04.opsRat e
  let p : Rat := -(1/2) + (1/2) / (ops.length : Rat)
  ops.map fun g => (wrapQ (g.m00 * p + g.m01 * p + g.m02), wrapQ (g.m10 * p + g.m11 * p + g.m12))

/-- kernel-decided per table at ℚ: any two distinct images `(i, 0, 0)`, `(j, a, b)` of the wrapped
initial copies within one shell are at squared fractional distance at least `1/N²` (one shell is all
that the check of the initial state searches, `initial_shells`) -/
theorem initial_copies_separated :
    ∀ e ∈ Generated.tables, ∀ i < (initPts e).length, ∀ j < (initPts e).length,
      ∀ a ∈ shellRange 1, ∀ b ∈ shellRange 1, (i = j ∧ a = 0 ∧ b = 0) ∨
        1 / (((C04.opsRat e).length : ℚ) * ((C04.opsRat e).length : ℚ)) ≤
          (((initPts e).getD i (0, 0)).1 - ((initPts e).getD j (0, 0)).1 - (a : ℚ)) ^ 2 +
          (((initPts e).getD i (0, 0)).2 - ((initPts e).getD j (0, 0)).2 - (b : ℚ)) ^ 2 := by
  decide +kernel

theorem site_pos_eval (n : Nat) :
    Generated.siteInitPosition.eval
      (fun s => if s == "multiplicity" then ((n : Nat) : ℝ) else ((0 : Nat) : ℝ)) =
      -(1 / 2) + (1 / 2) / (n : ℝ) := by
  simp [Generated.siteInitPosition, BExpr.eval]

theorem site_angle_eval : (Generated.siteInitAngle.eval noEnv : ℝ) = 0 := by
  simp [Generated.siteInitAngle, BExpr.eval]

theorem fromGroup_totalShapes (kind : Kind) (shape : Shape ℝ) (name : List Char) (family : Family)
    (ops : List (Mat3 ℝ)) : (Crystal.fromGroup kind shape name family ops).totalShapes = ops.length := by
  simp [Crystal.totalShapes, Crystal.fromGroup, Site.multiplicity, Site.fromWyckoff]

theorem init_rel (kind : Kind) (shape : Shape ℝ) (name : List Char) (family : Family)
    (ops : List (Mat3 ℝ)) :
    (Crystal.fromGroup kind shape name family ops).relPositions =
      ops.map fun g => (g.mul (Mat3.new 0 (-(1 / 2) + (1 / 2) / (ops.length : ℝ))
        (-(1 / 2) + (1 / 2) / (ops.length : ℝ)))).periodic (1 : ℝ) (-(1 / 2) : ℝ) := by
  unfold Crystal.relPositions Crystal.fromGroup
  simp only [List.flatMap_cons, List.flatMap_nil, List.append_nil]
  rw [C15.positions_eq]
  simp only [Site.transform, Site.fromWyckoff, site_pos_eval, site_angle_eval]

theorem table_ops_ok (e : TableEntry) (he : e ∈ Generated.tables) :
    ∀ g ∈ C04.opsReal e, C15.OpLike g ∧ C12.Orthogonal g := by
  intro g hg
  have f := (C04.real_facts e he).2.2.1 g hg
  exact ⟨f.opLike, f.orthogonal⟩

/-- the site wrap of a rational is the cast of its wrap at ℚ (`w_cast`) -/
theorem init_rel_pts (e : TableEntry) (he : e ∈ Generated.tables) (kind : Kind) (shape : Shape ℝ) :
    (Crystal.fromGroup kind shape e.name e.family (C04.opsReal e)).relPositions.map
        (fun t => (t.m02, t.m12)) =
      (initPts e).map fun xy => ((xy.1 : ℝ), (xy.2 : ℝ)) := by
  rw [init_rel, initPts, C04.opsReal_length, C04.opsReal_eq_cast]
  simp only [List.map_map]
  refine List.map_congr_left fun g hg => ?_
  have hop := (table_ops_ok e he _ (C04.opsReal_eq_cast e ▸ List.mem_map_of_mem hg)).1
  simp only [Function.comp]
  rw [C15.placed _ hop, ← w_cast, ← w_cast]
  push_cast
  rfl

theorem init_rel_entry (e : TableEntry) (he : e ∈ Generated.tables) (kind : Kind) (shape : Shape ℝ)
    (i : Nat)
    (hi : i < (Crystal.fromGroup kind shape e.name e.family (C04.opsReal e)).relPositions.length) :
    ((Crystal.fromGroup kind shape e.name e.family (C04.opsReal e)).relPositions[i]).m02 =
        ((((initPts e).getD i (0, 0)).1 : ℚ) : ℝ) ∧
    ((Crystal.fromGroup kind shape e.name e.family (C04.opsReal e)).relPositions[i]).m12 =
        ((((initPts e).getD i (0, 0)).2 : ℚ) : ℝ) := by
  have h := List.getElem_of_eq (init_rel_pts e he kind shape) (by rwa [List.length_map])
  rw [List.getElem_map, List.getElem_map, List.getElem_eq_getD (l := initPts e) (0, 0)] at h
  exact Prod.mk.inj h

theorem size_hard (R : ℝ) (n : Nat) :
    Generated.packedInitSize.eval (genEnv R n) = 4 * R * (n : ℝ) := by
  simp [Generated.packedInitSize, BExpr.eval, genEnv]

theorem size_lj (R : ℝ) (n : Nat) :
    Generated.ljInitSize.eval (genEnv R n) = 2 * R * (n : ℝ) := by
  simp [Generated.ljInitSize, BExpr.eval, genEnv]

theorem ratio_eval : (Generated.fromFamilyRatio.eval noEnv : ℝ) = 1 := by
  simp [Generated.fromFamilyRatio, BExpr.eval]

theorem angle_eval (family : Family) (hf : family = .Monoclinic ∨ family = .Orthorhombic) :
    ((Generated.fromFamilyAngle family).eval noEnv : ℝ) = Real.pi / 2 := by
  rcases hf with rfl | rfl <;> simp [Generated.fromFamilyAngle, BExpr.eval]

theorem fromGroup_cell (kind : Kind) (shape : Shape ℝ) (name : List Char) (family : Family)
    (hf : family = .Monoclinic ∨ family = .Orthorhombic) (ops : List (Mat3 ℝ)) :
    (Crystal.fromGroup kind shape name family ops).cell =
      ⟨(match kind with | .hard => 4 | .lj => 2) * shape.enclosingRadius * (ops.length : ℝ), 1,
        Real.pi / 2, family⟩ := by
  cases kind
  · simp only [Crystal.fromGroup, Cell.fromFamily, size_hard, ratio_eval, angle_eval family hf]
  · simp only [Crystal.fromGroup, Cell.fromFamily, size_lj, ratio_eval, angle_eval family hf]

theorem tables_nonempty : Generated.tables.all (fun e => decide (0 < e.ops.length)) = true := by
  decide

theorem opsReal_pos (e : TableEntry) (he : e ∈ Generated.tables) : 0 < (C04.opsReal e).length := by
  rw [C04.opsReal_length, (C04.real_facts e he).1]
  exact of_decide_eq_true (List.all_eq_true.mp tables_nonempty e he)

theorem init_placed (e : TableEntry) (he : e ∈ Generated.tables) (kind : Kind) (shape : Shape ℝ) :
    ∀ p ∈ (Crystal.fromGroup kind shape e.name e.family (C04.opsReal e)).relPositions,
      C01.Placed p := by
  apply C01.relPositions_placed
  intro site hsite g hg
  obtain rfl : site = Site.fromWyckoff (C04.opsReal e) := by
    simpa [Crystal.fromGroup] using hsite
  exact table_ops_ok e he g hg

/-- copies at least `1/N` apart in fractional coordinates are at least `a` apart in a square cell
of side `a·N` (here `a = 4R`) -/
theorem scaled_sep {a N d : ℝ} (hN : 0 < N) (hd : 1 / (N * N) ≤ d) : a ^ 2 ≤ (a * N) ^ 2 * d := by
  rw [div_le_iff₀ (mul_pos hN hN)] at hd
  calc a ^ 2 ≤ a ^ 2 * (d * (N * N)) := le_mul_of_one_le_right (sq_nonneg _) hd
    _ = (a * N) ^ 2 * d := by ring

theorem init_pair_clear (e : TableEntry) (he : e ∈ Generated.tables) (shape : Shape ℝ)
    (hs : C01.ShapeOk shape) (hR : 0 < shape.enclosingRadius) :
    let st := Crystal.fromGroup .hard shape e.name e.family (C04.opsReal e)
    ∀ (i j : Nat) (hi : i < st.relPositions.length) (hj : j < st.relPositions.length) (n m : Int),
      |n| ≤ 1 → |m| ≤ 1 → ¬ (i = j ∧ n = 0 ∧ m = 0) →
      (shape.transform (C01.img st.cell st.relPositions[i] 0 0)).intersects
        (shape.transform (C01.img st.cell st.relPositions[j] n m)) = false := by
  intro st i j hi hj n m hn hm hne
  obtain ⟨_, hf, _, _⟩ := C04.real_facts e he
  have hlen : st.relPositions.length = (initPts e).length := by
    simpa using congrArg List.length (init_rel_pts e he .hard shape)
  have hPi := init_placed e he .hard shape _ (List.getElem_mem hi)
  have hPj := init_placed e he .hard shape _ (List.getElem_mem hj)
  obtain ⟨xi, yi⟩ := init_rel_entry e he .hard shape i hi
  obtain ⟨xj, yj⟩ := init_rel_entry e he .hard shape j hj
  have hsep := (Rat.cast_le (K := ℝ)).mpr
    ((initial_copies_separated e he i (hlen ▸ hi) j (hlen ▸ hj)
      n ((C14.mem_shellRange 1 n).mpr hn) m ((C14.mem_shellRange 1 m).mpr hm)).resolve_left hne)
  push_cast at hsep
  rw [← C04.opsReal_length] at hsep
  have hN : (0 : ℝ) < ((C04.opsReal e).length : ℝ) := by exact_mod_cast opsReal_pos e he
  have hc : st.cell = _ := fromGroup_cell .hard shape e.name e.family hf (C04.opsReal e)
  refine test_far shape hs hR _ _ (hPi.img _ 0 0) (hPj.img _ n m) ?_
  rw [square_dist _ (by rw [hc]) (by rw [hc]) _ _ hPi.1 hPj.1 n m, xi, yi, xj, yj, hc]
  exact scaled_sep hN hsep

theorem initial_cell (kind : Kind) (shape : Shape ℝ) (name : List Char) (family : Family)
    (hf : family = .Monoclinic ∨ family = .Orthorhombic) (ops : List (Mat3 ℝ)) :
    let st := Crystal.fromGroup kind shape name family ops
    st.cell.ratio = 1 ∧ st.cell.angle = Real.pi / 2 ∧ st.cell.family = family ∧
    st.cell.length = (match kind with | .hard => 4 | .lj => 2) * shape.enclosingRadius * (ops.length : ℝ) ∧
    st.sites.length = 1 ∧ st.totalShapes = ops.length := by
  have hc := fromGroup_cell kind shape name family hf ops
  exact ⟨congrArg Cell.ratio hc, congrArg Cell.angle hc, rfl, congrArg Cell.length hc, rfl,
    fromGroup_totalShapes kind shape name family ops⟩

theorem initial_shells (shape : Shape ℝ) (hR : 0 < shape.enclosingRadius) (name : List Char)
    (family : Family) (hf : family = .Monoclinic ∨ family = .Orthorhombic) (ops : List (Mat3 ℝ))
    (hn : 0 < ops.length) :
    (Crystal.fromGroup .hard shape name family ops).shells = 1 := by
  -- `positivity` below finds `0 < N` through `hN`
  have hN : (1 : ℝ) ≤ (ops.length : ℝ) := by exact_mod_cast hn
  rw [shells_eq, fromGroup_cell .hard shape name family hf ops]
  simp only [Cell.a, Cell.b, mul_one, min_self, Real.sin_pi_div_two]
  -- `0 < 2R / (4RN) ≤ 1` because `N ≥ 1`
  have hpos : 0 < 4 * shape.enclosingRadius * (ops.length : ℝ) := by positivity
  rw [Int.ceil_eq_iff, Int.cast_one, sub_self, div_le_one hpos]
  refine ⟨by positivity, ?_⟩
  calc 2 * shape.enclosingRadius ≤ 4 * shape.enclosingRadius * 1 := by linarith
    _ ≤ 4 * shape.enclosingRadius * (ops.length : ℝ) :=
        mul_le_mul_of_nonneg_left hN (by positivity)

theorem initial_check (e : TableEntry) (he : e ∈ Generated.tables) (shape : Shape ℝ)
    (hs : C01.ShapeOk shape) (hR : 0 < shape.enclosingRadius) :
    (Crystal.fromGroup .hard shape e.name e.family (C04.opsReal e)).checkIntersection = false := by
  obtain ⟨_, hf, _, _⟩ := C04.real_facts e he
  rw [C01.check_false_iff_img _ fun p hp => (init_placed e he .hard shape p hp).1]
  refine ⟨List.pairwise_iff_getElem.mpr fun i j hi hj hij =>
    init_pair_clear e he shape hs hR i j hi hj 0 0 (by simp) (by simp) (by omega),
    fun p hp q hq n m hn hm hnm _ => ?_⟩
  -- one shell is searched, the range `initial_copies_separated` covers
  rw [initial_shells shape hR e.name e.family hf _ (opsReal_pos e he)] at hn hm
  obtain ⟨i, hi, rfl⟩ := List.mem_iff_getElem.mp hp
  obtain ⟨j, hj, rfl⟩ := List.mem_iff_getElem.mp hq
  exact init_pair_clear e he shape hs hR i j hi hj n m hn hm fun hc => hnm hc.2

/-- C08, initial state, hard shapes: for every table and every hard shape whose components lie
within its (positive) enclosing radius, the state `from_group` builds passes the overlap check — it
has a defined score — and the score is positive and finite whenever the shape's area is positive. -/
theorem initial_state_valid_hard (e : TableEntry) (he : e ∈ Generated.tables) (shape : Shape ℝ)
    (hs : C01.ShapeOk shape) (hR : 0 < shape.enclosingRadius) :
    let st := Crystal.fromGroup .hard shape e.name e.family (C04.opsReal e)
    st.checkIntersection = false ∧
    ∃ v, st.scoreHard = some v ∧ (0 < shape.area → 0 < v) ∧
      v = shape.area * ((C04.opsReal e).length : ℝ) /
            ((4 * shape.enclosingRadius * ((C04.opsReal e).length : ℝ)) ^ 2) := by
  intro st
  obtain ⟨_, hf, _, _⟩ := C04.real_facts e he
  have hchk : st.checkIntersection = false := initial_check e he shape hs hR
  -- the final `positivity` finds `0 < N` through `hN`
  have hN : (1 : ℝ) ≤ ((C04.opsReal e).length : ℝ) := by exact_mod_cast opsReal_pos e he
  have hts : st.totalShapes = (C04.opsReal e).length := fromGroup_totalShapes ..
  have harea : st.cell.area = (4 * shape.enclosingRadius * ((C04.opsReal e).length : ℝ)) ^ 2 := by
    simp only [st, fromGroup_cell .hard shape e.name e.family hf, Cell.area, Cell.a, Cell.b,
      sin_real, Real.sin_pi_div_two]
    ring
  have hscore : st.scoreHard = some (shape.area * ((C04.opsReal e).length : ℝ) /
      ((4 * shape.enclosingRadius * ((C04.opsReal e).length : ℝ)) ^ 2)) := by
    unfold Crystal.scoreHard
    rw [hchk, hts, harea]
    rfl
  refine ⟨hchk, _, hscore, ?_, rfl⟩
  intro ha
  positivity

/-- C08, initial state, LJ shapes: a score is always reported (there is no overlap test), with the
group's number of copies -/
theorem initial_state_scored_lj (e : TableEntry) (he : e ∈ Generated.tables) (shape : Shape ℝ) :
    let st := Crystal.fromGroup .lj shape e.name e.family (C04.opsReal e)
    (∃ v, st.scoreLJ = some v) ∧ st.totalShapes = e.ops.length := by
  intro st
  refine ⟨⟨_, rfl⟩, ?_⟩
  rw [show st.totalShapes = (C04.opsReal e).length from fromGroup_totalShapes .., C04.opsReal_length,
    (C04.real_facts e he).1]

end PV.Proofs.C08Init
