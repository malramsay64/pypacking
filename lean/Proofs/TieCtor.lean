/-
  Proofs/TieCtor.lean — translator tie for the constructors: `Atom2::new`, `Line2::new`,
  `LJ2::default`, `LJ2::new`, `MolecularShape2::{from_trimer, circle}`, `LJShape2::{from_trimer,
  circle}`, `LineShape::{from_radial, polygon}` (tools/rs2lean.py → Generated/FnsCtor.lean).  The
  struct literals (with `..Default::default()`), the `vec!` literals, the closure building the LJ
  particles and the `for … zip(cycle().skip(1)).enumerate() { items.push(..) }` loop of
  `from_radial` are regenerated from the source; over the reals they are the model's constructors,
  the shapes the C02 / C12 / C13 theorems are about.
-/
import Lemmas.TieTactics
import Generated.FnsCtor
import Mathlib.Data.List.Rotate

namespace PV.Proofs.TieCtor
open PV

theorem declared_translated_ctor : Gen.fnsCtorUntranslated = [] := by decide

theorem mol_circle_tie : Shape.mol (Gen.mol_circle (α := ℝ)) = Shape.molCircle := by
  unfold Gen.mol_circle Gen.atom2_new Shape.molCircle
  tie_close

theorem lj_circle_tie : Shape.lj (Gen.lj_circle (α := ℝ)) = Shape.ljCircle := by
  unfold Gen.lj_circle Gen.lj2_new Gen.lj2_default Shape.ljCircle
  tie_close

theorem mol_from_trimer_tie (radius angle distance : ℝ) :
    Shape.mol (Gen.mol_from_trimer radius angle distance) = Shape.molTrimer radius angle distance := by
  unfold Gen.mol_from_trimer Gen.atom2_new Shape.molTrimer
  tie_close

theorem lj_from_trimer_tie (radius angle distance : ℝ) :
    Shape.lj (Gen.lj_from_trimer radius angle distance) = Shape.ljTrimer radius angle distance := by
  unfold Gen.lj_from_trimer Gen.lj2_default Shape.ljTrimer
  -- σ-factor and cutoff of the model are the generated constants (2 and 7/2 by `C13.declared_trimer_constants`)
  tie_close [Generated.ljTrimerSigmaFactor, Generated.ljTrimerCutoff]

/-- a `for` loop whose only effect is `items.push(f x)` -/
theorem foldlM_push {β γ : Type} {step : List γ → β → Except Unit (List γ)} {f : β → γ}
    (hstep : ∀ acc x, step acc x = Except.ok (acc ++ [f x])) (l : List β) (init : List γ) :
    List.foldlM step init l = Except.ok (init ++ l.map f) := by
  induction l generalizing init with
  | nil => simp [pure, Except.pure]
  | cons x xs ih => simp [List.foldlM_cons, hstep, bind, Except.bind, ih]

theorem filterMap_range_index {β : Type} (l : List β) : (List.range l.length).filterMap (l[·]?) = l := by
  induction l with
  | nil => rfl
  | cons x xs ih =>
    rw [List.length_cons, List.range_succ_eq_map, List.filterMap_cons_some (List.getElem?_cons_zero ..),
      List.filterMap_map]
    exact congrArg (x :: ·) ih

theorem cycleTake_length {β : Type} (l : List β) (k : Nat) : cycleTake l k l.length = l.rotate k := by
  have h : ∀ i ∈ List.range l.length, l[(i + k) % l.length]? = (l.rotate k)[i]? :=
    fun i hi => (List.getElem?_rotate (List.mem_range.mp hi)).symm
  rw [cycleTake, List.filterMap_congr h, ← l.length_rotate k, filterMap_range_index]

/-- `l.iter().cycle().skip(1)`, which `from_radial` zips against `l` itself -/
theorem cycleTake_one {β : Type} (l : List β) : cycleTake l 1 l.length = l.drop 1 ++ l.take 1 := by
  rw [cycleTake_length]
  cases l with
  | nil => rfl
  | cons a t => exact List.rotate_eq_drop_append_take (Nat.le_add_left 1 t.length)

theorem line2_new_tie (a b : ℝ × ℝ) : Gen.line2_new a b = ⟨a.1, a.2, b.1, b.2⟩ := rfl

/-- the body of the `for` loop of `from_radial` pushes the model's outline segment `index` for radii
`(r1, r2)` and never fails -/
theorem from_radial_loop_tie (dtheta : ℝ) (items : List (Line2 ℝ)) (x : Nat × (ℝ × ℝ)) :
    Gen.line_from_radial_loop1 dtheta items x = Except.ok (items ++ [(⟨
      x.2.1 * sin ((x.1 : ℝ) * dtheta), x.2.1 * cos ((x.1 : ℝ) * dtheta),
      x.2.2 * sin ((x.1 : ℝ) * dtheta + dtheta), x.2.2 * cos ((x.1 : ℝ) * dtheta + dtheta)⟩ : Line2 ℝ)]) := by
  obtain ⟨i, r1, r2⟩ := x
  unfold Gen.line_from_radial_loop1 Gen.line2_new
  tie_close

theorem from_radial_tie (points : List ℝ) :
    Gen.line_from_radial points
      = match Shape.fromRadial points with
        | some (.line l) => Except.ok l
        | _ => Except.error () := by
  unfold Gen.line_from_radial Shape.fromRadial
  by_cases h : points.length < 3
  · simp [h]
  · simp only [h, ↓reduceIte]
    rw [cycleTake_one, foldlM_push (from_radial_loop_tie _)]
    simp only [List.nil_append, List.map_map]
    rfl

theorem polygon_tie (sides : Nat) :
    Gen.line_polygon (α := ℝ) sides
      = match Shape.polygon sides with
        | some (.line l) => Except.ok l
        | _ => Except.error () := by
  unfold Gen.line_polygon Shape.polygon
  rw [from_radial_tie, sc1]

end PV.Proofs.TieCtor
