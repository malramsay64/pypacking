/-
  Proofs/SrcC17.lean — the grammar and dimension clauses of C17 stated about `Transform2::from_operations` as
  translated (src/transform.rs → Generated/FnsParse.lean), by Proofs/TieParse: the grammar clause from Proofs/C17
  (stated over any field); the dimension clauses from Lemmas/ParserLemmas (any carrier), since C17 has them at ℚ.
-/
import Proofs.C17
import Proofs.TieParse
import Lemmas.RealCarrier

namespace PV.Proofs.Source
open PV PV.Proofs.C17

/-- **C17 about the source** (grammar clause): every string of the grammar is parsed BY THE TRANSLATED
SOURCE to the affine map sending `(x, y)` to the values of its two expressions; the projective row is zero -/
theorem C17_source_grammar_sound (o : Op) (h : o.WF = true) :
    ∃ m : Mat3 ℝ, Gen.from_operations (α := ℝ) o.render = .ok m ∧
      m.m20 = 0 ∧ m.m21 = 0 ∧ m.m22 = 0 ∧
      ∀ x y : ℝ, m.m00 * x + m.m01 * y + m.m02 = o.c0.eval x y ∧
                 m.m10 * x + m.m11 * y + m.m12 = o.c1.eval x y := by
  rw [TieParse.from_operations_tie]
  exact grammar_sound (K := ℝ) o h

theorem C17_source_too_few (s : List Char) (h : (splitTerminator (trimBraces s)).length < 2) :
    Gen.from_operations (α := ℝ) s = .error .tooFew := by
  rw [TieParse.from_operations_tie]
  exact ParserLemmas.fromOperations_few s h

theorem C17_source_too_many (s : List Char) (h : 2 < (splitTerminator (trimBraces s)).length) :
    Gen.from_operations (α := ℝ) s = .error .tooMany := by
  rw [TieParse.from_operations_tie]
  exact ParserLemmas.fromOperations_many s h

end PV.Proofs.Source
