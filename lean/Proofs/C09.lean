/-
  Proofs/C09.lean — C09: same seed, same answer — results do not depend on threads or other replicas.

  The optimiser and the CLI pipeline are FUNCTIONS in the model (`optimise`, `replica`, `cliRun`):
  determinism of the model is by construction.  What is proved is what makes the implementation be
  that function: clones share no parameter cell and no entropy source is consulted
  (`declared_isolation`); replicas stepping over ONE shared heap under ANY interleaving, each on
  its own cells, end exactly as if each had run alone, and cells that belong to no replica (the
  un-cloned original) are never written (`noninterference`); the reduction does not depend on how
  rayon brackets the range (`C10.reduce_any_tree`).
  Partial: the Lean model has no threads — data races on the unsynchronised cells, the memory model
  and rayon's scheduler are not exhibited; the thread sweeps of the `cli` family and the
  thread-pool oracle cover them empirically.
-/
import Lemmas.RealCarrier
import Model.Cli
import Lemmas.Optimiser

namespace PV.Proofs.C09
open PV

set_option linter.unusedSectionVars false

/-- regenerated from the source on every run: `Clone` of `Cell2` / `OccupiedSite` allocates a fresh
parameter cell for every field; there is no `static`, `thread_local!`,
`Rc/Arc/RefCell/Mutex/Atomic`; the only `unsafe` items are the four in basis.rs; with a seed set
no entropy source is consulted and the generator is `seed_from_u64(seed)` -/
theorem declared_isolation :
    Generated.cloneFresh = [("Cell2", true), ("OccupiedSite", true)] ∧
    Generated.sharedStateInventory =
      ["src/basis.rs: unsafe", "src/basis.rs: unsafe", "src/basis.rs: unsafe", "src/basis.rs: unsafe"] ∧
    Generated.seedOnly = true ∧ Generated.rngFromSeed = true :=
  ⟨rfl, rfl, rfl, rfl⟩

/-- the replicas are combined with `max` (regenerated from `analyse_state`): by `C10.reduce_any_tree`
its result is the last maximal element of the index-ordered results for EVERY way rayon splits and
recombines the range — also when different replicas tie exactly -/
theorem declared_reduction : Generated.cliReduction = "max" := by decide

theorem seed_only (b : Builder ℝ) (s : Nat) (hs : b.seed = some s) :
    ∃ c, b.build = .ok c ∧ c.seed = s :=
  ⟨_, Builder.build_eq_ok_iff.2 ⟨s, hs, rfl⟩, rfl⟩

theorem stages_seeded (b : Builder ℝ) (index : Nat) :
    ∀ ovrs ∈ Generated.cliStages, (stageBuilder b index ovrs).seed = some index := by
  intro ovrs h
  simp only [Generated.cliStages, List.mem_cons, List.not_mem_nil, or_false] at h
  rcases h with rfl | rfl | rfl <;> simp [stageBuilder, Ovr.apply]

section
variable {α : Type} [Add α] [Sub α] [Mul α] [Div α] [Neg α] [LT α] [DecidableLT α] [LE α]
         [DecidableLE α] [BEq α] [NatCast α] [IntCast α] [Transc α] [FModLike α] [FMin α]

/-- the private part of a replica: everything the optimiser holds except the parameter cells -/
structure Priv (α : Type) where
  hs : Array (Handle α)
  cur : α
  kt : α
  ratio : α
  calls : Nat
  loopRej : Nat

def sharedStep (score : Nat → Array α → Option α) (c : Cfg α) (p : Priv α) (heap : Array α)
    (d : Nat × α × α) : Option (Priv α × Array α) :=
  match stepOnce score c 0 ⟨heap, p.hs, p.cur, p.kt, p.ratio, p.calls, p.loopRej⟩ d with
  | .ok (st', _) => some (⟨st'.hs, st'.cur, st'.kt, st'.ratio, st'.calls, st'.loopRej⟩, st'.heap)
  | .panic _ => none

structure Sys (α : Type) (k : Nat) where
  score : Fin k → Nat → Array α → Option α
  cfg : Fin k → Cfg α
  priv : Fin k → Priv α

/-- run a schedule (which replica steps next, with which draw) over the shared heap -/
def runSched {k : Nat} (sys : Sys α k) : List (Fin k × (Nat × α × α)) → (Fin k → Priv α) → Array α →
    Option ((Fin k → Priv α) × Array α)
  | [], ps, heap => some (ps, heap)
  | (i, d) :: rest, ps, heap =>
    match sharedStep (sys.score i) (sys.cfg i) (ps i) heap d with
    | none => none
    | some (p', heap') => runSched sys rest (fun j => if j = i then p' else ps j) heap'

def addrsOf (p : Priv α) : List Nat := p.hs.toList.map (·.addr)

def AgreeOn (as : List Nat) (h h' : Array α) : Prop := ∀ a ∈ as, h[a]? = h'[a]?

def propVal (c : Cfg α) (p : Priv α) (heap : Array α) (hd : Handle α) (sdraw : α) : α :=
  clamp hd.min hd.max (hd.sample heap (c.maxStep * p.ratio) sdraw)

/-- a rejected step gives back the heap it started from -/
theorem sharedStep_eq (score : Nat → Array α → Option α) (c : Cfg α) (p : Priv α) (heap : Array α)
    (idx : Nat) (sdraw thr : α) :
    sharedStep score c p heap (idx, sdraw, thr) =
      match p.hs[idx]? with
      | none => none
      | some hd =>
        let hs' := p.hs.setIfInBounds idx { hd with old := hget heap hd.addr }
        let prop := heap.setIfInBounds hd.addr (propVal c p heap hd sdraw)
        match acceptScore (score p.calls prop) p.cur p.kt thr with
        | some s => some (⟨hs', s, p.kt, p.ratio, p.calls + 1, p.loopRej⟩, prop)
        | none => some (⟨hs', p.cur, p.kt, p.ratio, p.calls + 1, p.loopRej + 1⟩, heap) := by
  simp only [sharedStep, stepOnce, Handle.setSampled, Handle.setValue, Handle.resetValue, propVal]
  cases p.hs[idx]? with
  | none => rfl
  | some hd =>
    simp only
    generalize acceptScore (α := α) _ _ _ _ = r
    cases r with
    | none => rw [setIfInBounds_hget_cancel]
    | some s => rfl

theorem map_setIfInBounds_of_eq {β γ : Type} (f : β → γ) (xs : Array β) (i : Nat) (x y : β)
    (hh : xs[i]? = some y) (hf : f x = f y) :
    (xs.setIfInBounds i x).toList.map f = xs.toList.map f := by
  obtain ⟨hlt, rfl⟩ := Array.getElem?_eq_some_iff.mp hh
  have hl : i < (xs.toList.map f).length := by rwa [List.length_map, Array.length_toList]
  rw [Array.toList_setIfInBounds, List.map_set, hf, ← Array.getElem_toList hlt,
    ← List.getElem_map (h := hl), List.set_getElem_self]

theorem mem_addrs_of_get (hs : Array (Handle α)) (idx : Nat) (hd : Handle α)
    (hh : hs[idx]? = some hd) : hd.addr ∈ hs.toList.map (·.addr) :=
  List.mem_map.mpr ⟨hd, Array.mem_toList_iff.mpr (Array.mem_of_getElem? hh), rfl⟩

theorem sharedStep_frame (score : Nat → Array α → Option α) (c : Cfg α) (p p' : Priv α)
    (heap heap' : Array α) (d : Nat × α × α)
    (h : sharedStep score c p heap d = some (p', heap')) :
    addrsOf p' = addrsOf p ∧ heap'.size = heap.size ∧
      ∀ a, a ∉ addrsOf p → heap'[a]? = heap[a]? := by
  obtain ⟨idx, sdraw, thr⟩ := d
  rw [sharedStep_eq] at h
  cases hh : p.hs[idx]? with
  | none => simp [hh] at h
  | some hd =>
    have hmem : hd.addr ∈ addrsOf p := mem_addrs_of_get _ _ _ hh
    have haddr := map_setIfInBounds_of_eq (·.addr) p.hs idx
      { hd with old := hget heap hd.addr } hd hh rfl
    simp only [hh] at h
    split at h
    · cases h
      refine ⟨haddr, by simp, fun a ha => ?_⟩
      have : hd.addr ≠ a := fun e => ha (e ▸ hmem)
      simp [this]
    · cases h
      exact ⟨haddr, rfl, fun _ _ => rfl⟩

theorem sharedStep_local (score : Nat → Array α → Option α) (c : Cfg α) (p p' : Priv α)
    (As : List Nat) (hAs : addrsOf p = As)
    (hloc : ∀ n h h', h.size = h'.size → AgreeOn As h h' → score n h = score n h')
    (hA hB hA' : Array α) (d : Nat × α × α)
    (hsz : hA.size = hB.size) (hag : AgreeOn As hA hB)
    (h : sharedStep score c p hA d = some (p', hA')) :
    ∃ hB', sharedStep score c p hB d = some (p', hB') ∧ hA'.size = hB'.size ∧
      AgreeOn As hA' hB' := by
  obtain ⟨idx, sdraw, thr⟩ := d
  rw [sharedStep_eq] at h ⊢
  cases hh : p.hs[idx]? with
  | none => simp [hh] at h
  | some hd =>
    have hmem : hd.addr ∈ As := hAs ▸ mem_addrs_of_get _ _ _ hh
    have hg : hget hA hd.addr = hget hB hd.addr := by rw [hget_eq, hget_eq, hag _ hmem]
    have hv : propVal c p hA hd sdraw = propVal c p hB hd sdraw := by
      simp only [propVal, Handle.sample, hg]
    have hsz' : (hA.setIfInBounds hd.addr (propVal c p hA hd sdraw)).size =
        (hB.setIfInBounds hd.addr (propVal c p hB hd sdraw)).size := by simp [hsz]
    have hag' : AgreeOn As (hA.setIfInBounds hd.addr (propVal c p hA hd sdraw))
        (hB.setIfInBounds hd.addr (propVal c p hB hd sdraw)) := by
      intro a ha
      rw [Array.getElem?_setIfInBounds, Array.getElem?_setIfInBounds, hv, hsz, hag a ha]
    have hsc := hloc p.calls _ _ hsz' hag'
    simp only [hh] at h ⊢
    rw [← hsc, ← hg]
    split at h
    · cases h
      exact ⟨_, rfl, hsz', hag'⟩
    · cases h
      exact ⟨_, rfl, hsz, hag⟩

/- Both inductions over a schedule run from arbitrary current private states `ps0` whose address
sets are still those of `sys.priv` (a step never changes them). -/

theorem addrs_step {k : Nat} {sys : Sys α k} {ps0 : Fin k → Priv α}
    (haddr : ∀ l, addrsOf (ps0 l) = addrsOf (sys.priv l)) {j : Fin k} {p' : Priv α}
    (hfa : addrsOf p' = addrsOf (ps0 j)) (l : Fin k) :
    addrsOf (if l = j then p' else ps0 l) = addrsOf (sys.priv l) := by
  split
  · next hl => rw [hfa, ← hl, haddr]
  · exact haddr l

theorem runSched_frame {k : Nat} (sys : Sys α k) (sched : List (Fin k × (Nat × α × α)))
    (ps0 ps : Fin k → Priv α) (hA heap' : Array α)
    (haddr : ∀ j, addrsOf (ps0 j) = addrsOf (sys.priv j))
    (hrun : runSched sys sched ps0 hA = some (ps, heap')) :
    heap'.size = hA.size ∧ ∀ a, (∀ j, a ∉ addrsOf (sys.priv j)) → heap'[a]? = hA[a]? := by
  induction sched generalizing ps0 hA with
  | nil =>
    cases hrun
    exact ⟨rfl, fun _ _ => rfl⟩
  | cons e rest ih =>
    obtain ⟨j, d⟩ := e
    simp only [runSched] at hrun
    split at hrun
    · cases hrun
    · next p' hA' hstep =>
      obtain ⟨hfa, hfs, hfr⟩ := sharedStep_frame _ _ _ _ _ _ _ hstep
      obtain ⟨h1, h2⟩ := ih _ hA' (addrs_step haddr hfa) hrun
      refine ⟨h1.trans hfs, fun a ha => ?_⟩
      rw [h2 a ha]
      exact hfr a (haddr j ▸ ha j)

theorem runSched_solo {k : Nat} (sys : Sys α k) (i : Fin k)
    (hdisj : ∀ j, i ≠ j → ∀ a ∈ addrsOf (sys.priv i), a ∉ addrsOf (sys.priv j))
    (hlocal : ∀ n h h', h.size = h'.size → AgreeOn (addrsOf (sys.priv i)) h h' →
        sys.score i n h = sys.score i n h')
    (sched : List (Fin k × (Nat × α × α))) (ps0 qs0 ps : Fin k → Priv α) (hA hB heap' : Array α)
    (haddr : ∀ j, addrsOf (ps0 j) = addrsOf (sys.priv j)) (hpq : ps0 i = qs0 i)
    (hsz : hA.size = hB.size) (hag : AgreeOn (addrsOf (sys.priv i)) hA hB)
    (hrun : runSched sys sched ps0 hA = some (ps, heap')) :
    ∃ ps1 heap1,
      runSched sys (sched.filter (fun e => e.1 = i)) qs0 hB = some (ps1, heap1) ∧
      AgreeOn (addrsOf (sys.priv i)) heap' heap1 ∧ ps i = ps1 i := by
  induction sched generalizing ps0 qs0 hA hB with
  | nil =>
    cases hrun
    exact ⟨qs0, hB, rfl, hag, hpq⟩
  | cons e rest ih =>
    obtain ⟨j, d⟩ := e
    simp only [runSched] at hrun
    split at hrun
    · cases hrun
    · next p' hA' hstep =>
      obtain ⟨hfa, hfs, hfr⟩ := sharedStep_frame _ _ _ _ _ _ _ hstep
      have haddr' := addrs_step haddr hfa
      by_cases hji : j = i
      · subst hji
        rw [hpq] at hstep
        obtain ⟨hB', hstepB, hsz', hag'⟩ := sharedStep_local _ _ _ _ _
          (hpq ▸ haddr j) hlocal hA hB hA' d hsz hag hstep
        rw [List.filter_cons_of_pos (by simp)]
        simp only [runSched, hstepB]
        exact ih _ _ hA' hB' haddr' (by simp) hsz' hag' hrun
      · rw [List.filter_cons_of_neg (by simpa using hji)]
        refine ih _ qs0 hA' hB haddr' (by simpa [Ne.symm hji] using hpq) (hfs.trans hsz)
          (fun a ha => ?_) hrun
        rw [hfr a (haddr j ▸ hdisj j (Ne.symm hji) a ha)]
        exact hag a ha

/-- C09, noninterference: if the replicas' address sets are pairwise disjoint and each score reads
only its own replica's cells, then under ANY schedule the heap cells and private state of replica
`i` at the end are those obtained by running only `i`'s own steps (in the same order) on the
initial heap; and cells that belong to no replica are unchanged. -/
theorem noninterference {k : Nat} (sys : Sys α k) (sched : List (Fin k × (Nat × α × α)))
    (heap : Array α)
    (hdisj : ∀ i j, i ≠ j → ∀ a ∈ addrsOf (sys.priv i), a ∉ addrsOf (sys.priv j))
    (hlocal : ∀ i n h h', h.size = h'.size → AgreeOn (addrsOf (sys.priv i)) h h' →
        sys.score i n h = sys.score i n h')
    (ps : Fin k → Priv α) (heap' : Array α)
    (hrun : runSched sys sched sys.priv heap = some (ps, heap')) (i : Fin k) :
    ∃ ps1 heap1,
      runSched sys (sched.filter (fun e => e.1 = i)) sys.priv heap = some (ps1, heap1) ∧
      AgreeOn (addrsOf (sys.priv i)) heap' heap1 ∧
      (ps i).cur = (ps1 i).cur ∧ (ps i).calls = (ps1 i).calls ∧ (ps i).hs = (ps1 i).hs ∧
      heap'.size = heap.size ∧
      (∀ a, (∀ j, a ∉ addrsOf (sys.priv j)) → heap'[a]? = heap[a]?) := by
  obtain ⟨ps1, heap1, hr, h1, h2⟩ := runSched_solo sys i (hdisj i) (hlocal i) sched sys.priv
    sys.priv ps heap heap heap' (fun _ => rfl) rfl rfl (fun _ _ => rfl) hrun
  obtain ⟨h3, h4⟩ := runSched_frame sys sched sys.priv ps heap heap' (fun _ => rfl) hrun
  exact ⟨ps1, heap1, hr, h1, by rw [h2], by rw [h2], by rw [h2], h3, h4⟩

end

/-- the whole pipeline is a function of its arguments: equal inputs, equal outputs (stated for the
record; it is `rfl` because the model has no hidden state) -/
theorem cli_deterministic {G : Type} (next : Nat → G → (Nat × ℝ × ℝ) × G) (mkGen : Nat → G)
    (b : Builder ℝ) (st : Crystal ℝ) (k : Nat) :
    cliRun next mkGen b st k = cliRun next mkGen b st k := rfl

end PV.Proofs.C09
