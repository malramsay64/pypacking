/-
  Proofs/SrcC07.lean — the deterministic clauses of C07 stated about `MCOptimiser::accept_score` as translated
  (Generated/FnsAccept.lean), from Proofs/C07 by Proofs/TieAccept.
-/
import Proofs.C07
import Proofs.TieAccept

namespace PV.Proofs.Source
open PV PV.Proofs.Tie

/-- **C07 about the source**: the deterministic clauses of the Metropolis rule for the translated
`accept_score` -/
theorem C07_source_better (n old kt thr : ℝ) (h : old < n) : Gen.accept_score (some n) old kt thr = some n := by
  rw [accept_score_tie]
  exact C07.better_accepted n old kt thr h

theorem C07_source_none (old kt thr : ℝ) : Gen.accept_score (none : Option ℝ) old kt thr = none := by
  rw [accept_score_tie]
  exact C07.none_rejected old kt thr

theorem C07_source_worse_iff (n old kt thr : ℝ) (hkt : 0 < kt) (h : n < old) :
    (Gen.accept_score (some n) old kt thr).isSome = true ↔ thr < Real.exp (-(old - n) / kt) := by
  rw [accept_score_tie]
  exact C07.worse_iff n old kt thr hkt h

theorem C07_source_zero (n old kt thr : ℝ) (hkt : ¬ (0 < kt)) (h : n < old) (h0 : 0 ≤ thr) :
    Gen.accept_score (some n) old kt thr = none := by
  rw [accept_score_tie]
  exact C07.worse_at_zero_rejected n old kt thr hkt h h0

end PV.Proofs.Source
