/-
  Proofs/TieBasis.lean — translator tie for `StandardBasis::{value_range, sample}` and the clamp of `set_value`
  (src/basis.rs → Generated/FnsBasis.lean; the step draw is a parameter): over the reals they are the model's
  `Handle.sample` and `clamp` (C06, C08, C19, C20).
-/
import Lemmas.TieTactics
import Generated.FnsBasis

namespace PV.Proofs.Tie
open PV

theorem declared_translated_basis : Gen.fnsBasisUntranslated = [] := by decide

@[tie]
theorem value_range_tie (h : Handle ℝ) : Gen.basis_value_range h = h.max - h.min := by
  unfold Gen.basis_value_range
  tie_close

@[tie]
theorem clamped_tie (h : Handle ℝ) (v : ℝ) : Gen.basis_clamped h v = clamp h.min h.max v := by
  unfold Gen.basis_clamped clamp
  tie_close

@[tie]
theorem sample_tie (h : Handle ℝ) (heap : Array ℝ) (step draw : ℝ) :
    Gen.basis_sample h (hget heap h.addr) step draw = h.sample heap step draw := by
  unfold Gen.basis_sample Handle.sample
  tie_close

end PV.Proofs.Tie
