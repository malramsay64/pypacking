/-
  Proofs/C04.lean — C04: every crystal produced has the symmetry of the requested wallpaper group.
  Carrier ℝ (tables decided at ℚ in the kernel and transported to ℝ through the parser).

  The tables are those regenerated from src/wallpaper.rs; the cells are those of the table's family:
  any cell for the oblique family, `cos angle = 0` for the rectangular one — which the optimiser
  preserves, C08: the angle has a handle only for Monoclinic cells and `from_family` starts at π/2.
  Both state kinds share `Site.positions` and `Cell.toCartesianIsometry`, so the theorem covers hard
  and Lennard-Jones states alike.
-/
import Lemmas.ParserLemmas
import Spec.Groups
import Proofs.C15
import Mathlib.Tactic.Ring
import Mathlib.Tactic.NormNum
import Mathlib.Data.Rat.Cast.CharZero

namespace PV.Proofs.C04
open PV

abbrev castMat (m : Mat3 Rat) : Mat3 ℝ := m.map ((↑) : ℚ → ℝ)

/-- what is decided about the tables at ℚ in the kernel is thereby a fact about the very matrices
the real-number theorems talk about -/
theorem parser_cast (s : List Char) :
    fromOperations (α := ℝ) s = (fromOperations (α := Rat) s).map castMat :=
  ParserLemmas.fromOperations_map
    ⟨Rat.cast_mul, Rat.cast_div, Rat.cast_neg, Rat.cast_natCast⟩ s

noncomputable def opsReal (e : TableEntry) : List (Mat3 ℝ) :=
  e.ops.filterMap fun s => match fromOperations (α := ℝ) s with
    | .ok m => some m
    | .error _ => none

def opsRat (e : TableEntry) : List (Mat3 Rat) :=
  e.ops.filterMap fun s => match fromOperations (α := Rat) s with
    | .ok m => some m
    | .error _ => none

theorem opsReal_eq_cast (e : TableEntry) : opsReal e = (opsRat e).map castMat := by
  unfold opsReal opsRat
  rw [List.map_filterMap]
  congr 1
  funext s
  rw [parser_cast]
  cases fromOperations (α := Rat) s <;> rfl

theorem opsReal_length (e : TableEntry) : (opsReal e).length = (opsRat e).length := by
  rw [opsReal_eq_cast, List.length_map]

structure OpFacts (fam : Family) (g : Mat3 ℝ) : Prop where
  m20 : g.m20 = 0
  m21 : g.m21 = 0
  m22 : g.m22 = 0
  m01 : g.m01 = 0
  m10 : g.m10 = 0
  m00 : g.m00 = 1 ∨ g.m00 = -1
  m11 : g.m11 = 1 ∨ g.m11 = -1
  mono : fam = .Monoclinic → g.m00 = g.m11

theorem OpFacts.opLike {fam : Family} {g : Mat3 ℝ} (f : OpFacts fam g) : C15.OpLike g :=
  ⟨f.m20, f.m21, Or.inl f.m22⟩

theorem OpFacts.orthogonal {fam : Family} {g : Mat3 ℝ} (f : OpFacts fam g) :
    g.m00 * g.m00 + g.m10 * g.m10 = 1 ∧ g.m01 * g.m01 + g.m11 * g.m11 = 1 ∧
      g.m00 * g.m01 + g.m10 * g.m11 = 0 := by
  have sq : ∀ a : ℝ, a = 1 ∨ a = -1 → a * a = 1 := by
    rintro a (rfl | rfl) <;> norm_num
  rw [f.m01, f.m10, sq _ f.m00, sq _ f.m11]
  norm_num

/-- `OpFacts`, field by field, as a check at ℚ: projective row zero, linear part `diag(±1, ±1)`,
and `±I` for the oblique family -/
def opOk (fam : Family) (g : Mat3 Rat) : Bool :=
  g.m20 == 0 && g.m21 == 0 && g.m22 == 0 && g.m01 == 0 && g.m10 == 0 &&
  (g.m00 == 1 || g.m00 == -1) && (g.m11 == 1 || g.m11 == -1) &&
  (fam != .Monoclinic || g.m00 == g.m11)

theorem opFacts_cast {fam : Family} {g : Mat3 Rat} (h : opOk fam g = true) :
    OpFacts fam (castMat g) := by
  simp only [opOk, Bool.and_eq_true, Bool.or_eq_true, beq_iff_eq, bne_iff_ne] at h
  obtain ⟨⟨⟨⟨⟨⟨⟨h20, h21⟩, h22⟩, h01⟩, h10⟩, h00⟩, h11⟩, hm⟩ := h
  constructor <;> simp only [Mat3.map, h20, h21, h22, h01, h10, Rat.cast_zero]
  · exact h00.imp (fun h => by rw [h, Rat.cast_one]) (fun h => by rw [h, Rat.cast_neg, Rat.cast_one])
  · exact h11.imp (fun h => by rw [h, Rat.cast_one]) (fun h => by rw [h, Rat.cast_neg, Rat.cast_one])
  · intro hf
    rw [hm.resolve_left (not_not_intro hf)]

/-- `g ∘ h ≡ k` modulo the lattice, at ℝ -/
def CompEquivR (g h k : Mat3 ℝ) : Prop :=
  g.m00 * h.m00 + g.m01 * h.m10 = k.m00 ∧ g.m00 * h.m01 + g.m01 * h.m11 = k.m01 ∧
  g.m10 * h.m00 + g.m11 * h.m10 = k.m10 ∧ g.m10 * h.m01 + g.m11 * h.m11 = k.m11 ∧
  (∃ z : ℤ, g.m00 * h.m02 + g.m01 * h.m12 + g.m02 - k.m02 = (z : ℝ)) ∧
  (∃ z : ℤ, g.m10 * h.m02 + g.m11 * h.m12 + g.m12 - k.m12 = (z : ℝ))

theorem cast_row {a b c d e : ℚ} (h : a * b + c * d = e) : (a : ℝ) * b + c * d = e := by
  rw [← h, Rat.cast_add, Rat.cast_mul, Rat.cast_mul]

theorem cast_row_int {a b c d t w : ℚ} (h : Spec.isInt (a * b + c * d + t - w) = true) :
    ∃ z : ℤ, (a : ℝ) * b + c * d + t - w = z := by
  refine ⟨(a * b + c * d + t - w).num, ?_⟩
  rw [← Rat.cast_intCast, (Rat.den_eq_one_iff _).mp (beq_iff_eq.mp h), Rat.cast_sub, Rat.cast_add,
    Rat.cast_add, Rat.cast_mul, Rat.cast_mul]

theorem compEquiv_cast {g h k : Mat3 Rat}
    (hc : ((Spec.affOfMat g).comp (Spec.affOfMat h)).equivModLattice (Spec.affOfMat k) = true) :
    CompEquivR (castMat g) (castMat h) (castMat k) := by
  simp only [Spec.Aff.equivModLattice, Spec.Aff.comp, Spec.affOfMat, Bool.and_eq_true,
    beq_iff_eq] at hc
  obtain ⟨⟨⟨⟨⟨h1, h2⟩, h3⟩, h4⟩, h5⟩, h6⟩ := hc
  exact ⟨cast_row h1, cast_row h2, cast_row h3, cast_row h4, cast_row_int h5, cast_row_int h6⟩

/-- per table: every string parses, the family is oblique or rectangular, every operation is as
`OpFacts` says, and the list is closed under composition modulo the lattice -/
theorem tables_facts :
    Generated.tables.all (fun e =>
      (opsRat e).length == e.ops.length &&
      (e.family == .Monoclinic || e.family == .Orthorhombic) &&
      (opsRat e).all (opOk e.family) &&
      (opsRat e).all (fun g => (opsRat e).all fun h => (opsRat e).any fun k =>
        ((Spec.affOfMat g).comp (Spec.affOfMat h)).equivModLattice (Spec.affOfMat k))) = true := by
  decide +kernel

theorem real_facts (e : TableEntry) (he : e ∈ Generated.tables) :
    (opsRat e).length = e.ops.length ∧
    (e.family = .Monoclinic ∨ e.family = .Orthorhombic) ∧
    (∀ g ∈ opsReal e, OpFacts e.family g) ∧
    (∀ g ∈ opsReal e, ∀ h ∈ opsReal e, ∃ k ∈ opsReal e, CompEquivR g h k) := by
  have h := List.all_eq_true.mp tables_facts e he
  simp only [Bool.and_eq_true, Bool.or_eq_true, List.all_eq_true, List.any_eq_true,
    beq_iff_eq] at h
  obtain ⟨⟨⟨hlen, hfam⟩, hops⟩, hclos⟩ := h
  rw [opsReal_eq_cast]
  refine ⟨hlen, hfam, List.forall_mem_map.mpr fun g hg => opFacts_cast (hops g hg),
    List.forall_mem_map.mpr fun g hg => List.forall_mem_map.mpr fun h hh => ?_⟩
  obtain ⟨k, hk, hc⟩ := hclos g hg h hh
  exact ⟨castMat k, List.mem_map_of_mem hk, compEquiv_cast hc⟩

def InFamily (c : Cell ℝ) : Family → Prop
  | .Monoclinic => True
  | .Orthorhombic => Real.cos c.angle = 0
  | _ => False

/-- the linear part of `g` commutes with the cell matrix `C = [A B]`, `A = (a,0)`, `B = (b cos t, b sin t)` -/
def Commutes (c : Cell ℝ) (g : Mat3 ℝ) : Prop :=
  g.m00 * c.a = c.a * g.m00 ∧
  g.m00 * (c.b * Real.cos c.angle) + g.m01 * (c.b * Real.sin c.angle) = c.a * g.m01 + (c.b * Real.cos c.angle) * g.m11 ∧
  g.m10 * c.a = (c.b * Real.sin c.angle) * g.m10 * 0 + 0 * g.m00 + (c.b * Real.sin c.angle) * g.m10 ∧
  g.m10 * (c.b * Real.cos c.angle) + g.m11 * (c.b * Real.sin c.angle) = (c.b * Real.sin c.angle) * g.m11

/-- why every operation of a table commutes with every cell of the table's family
(`table_commutes_cell`): its linear part is orthogonal and diagonal, and the cell is rectangular
(rectangular family) or the two diagonal entries are equal (oblique family).  So in Cartesian space
the operation is `X ↦ L_g X + C t_g`, a rigid motion or a reflection of the current cell -/
theorem table_commutes (e : TableEntry) (he : e ∈ Generated.tables) (c : Cell ℝ)
    (hc : InFamily c e.family) (g : Mat3 ℝ) (hg : g ∈ opsReal e) :
    (g.m00 * g.m00 + g.m10 * g.m10 = 1 ∧ g.m01 * g.m01 + g.m11 * g.m11 = 1 ∧
      g.m00 * g.m01 + g.m10 * g.m11 = 0) ∧
    g.m01 = 0 ∧ g.m10 = 0 ∧
    (e.family = .Orthorhombic → Real.cos c.angle = 0) ∧
    (e.family = .Monoclinic → g.m00 = g.m11) := by
  obtain ⟨_, _, hops, _⟩ := real_facts e he
  have f := hops g hg
  refine ⟨f.orthogonal, f.m01, f.m10, ?_, f.mono⟩
  intro hf
  rw [hf] at hc
  exact hc

theorem table_commutes_cell (e : TableEntry) (he : e ∈ Generated.tables) (c : Cell ℝ)
    (hc : InFamily c e.family) (g : Mat3 ℝ) (hg : g ∈ opsReal e) : Commutes c g := by
  obtain ⟨_, h01, h10, hO, hM⟩ := table_commutes e he c hc g hg
  obtain ⟨_, hfam, _, _⟩ := real_facts e he
  unfold Commutes
  rw [h01, h10]
  refine ⟨by ring, ?_, by ring, by ring⟩
  rcases hfam with hf | hf
  · rw [hM hf]
    ring
  · rw [hO hf]
    ring

/-- the Cartesian placement of the copy that the operation `h` makes of a site at `p = (x, y)` with
orientation `θ`: linear part `L_h · Rot θ`, position the image under the cell of the wrapped `h p` -/
theorem cartIso_placed (c : Cell ℝ) (h : Mat3 ℝ) (hop : C15.OpLike h) (θ x y : ℝ) :
    c.toCartesianIsometry ((h.mul (Mat3.new θ x y)).periodic (1 : ℝ) (-(1/2) : ℝ)) =
      ⟨h.m00 * Real.cos θ + h.m01 * Real.sin θ, h.m00 * (-Real.sin θ) + h.m01 * Real.cos θ,
       (c.toCartesian (C15.w (h.m00 * x + h.m01 * y + h.m02)) (C15.w (h.m10 * x + h.m11 * y + h.m12))).1,
       h.m10 * Real.cos θ + h.m11 * Real.sin θ, h.m10 * (-Real.sin θ) + h.m11 * Real.cos θ,
       (c.toCartesian (C15.w (h.m00 * x + h.m01 * y + h.m02)) (C15.w (h.m10 * x + h.m11 * y + h.m12))).2,
       0, 0, h.m22⟩ := by
  rw [C15.placed h hop, C14.isometry_eq]
  exact ⟨rfl, rfl, hop.2.2⟩

/-- a row of `L_g (L_h R) = (L_g L_h) R` -/
theorem row_assoc (a b p q r t c s : ℝ) :
    a * (p * c + q * s) + b * (r * c + t * s) = (a * p + b * r) * c + (a * q + b * t) * s := by
  ring

/-- a row of `(g ∘ h) p = g (h p)` when the composite `k` is known modulo the lattice: `l`, `l'` say
that the linear part of `k` is the product, `hz` that its translation is off by `z` -/
theorem row_comp {a b t p q u r s v k k' w x y z : ℝ} (l : a * p + b * r = k)
    (l' : a * q + b * s = k') (hz : a * u + b * v + t - w = z) :
    k * x + k' * y + w = a * (p * x + q * y + u) + b * (r * x + s * y + v) + t - z := by
  subst l l' hz
  ring

/-- the wrap commutes with an integral affine map `u ↦ a u + t` up to whole cells (`v` is the image
of `u`, itself known up to `z` cells) -/
theorem wrap_affine {a u t v : ℝ} {s z : ℤ} (ha : a = s) (hv : v = a * u + t - z) :
    ∃ n : ℤ, a * C15.w u + t = C15.w v + n := by
  obtain ⟨n1, h1⟩ := C15.wrap_congr u
  obtain ⟨n2, h2⟩ := C15.wrap_congr v
  refine ⟨s * n1 + z - n2, ?_⟩
  rw [h1, h2, hv, ha]
  push_cast
  ring

/-- a row of `L_g (C q) + C t = C q' + n A + m B` for diagonal `L_g = diag(a, d)`, `C = [A B]`:
`hA`, `hB` say that `L_g` commutes with `C` on this row (diagonal entry `e`), `e1`, `e2` that
`L_g q + t = q' + (n, m)` -/
theorem row_cart {e a d t t' q q' r r' n m A B : ℝ} (hA : e * A = a * A) (hB : e * B = d * B)
    (e1 : a * q + t = q' + n) (e2 : d * r + t' = r' + m) :
    e * (q * A + r * B) + (t * A + t' * B) = (q' * A + r' * B) + n * A + m * B := by
  linear_combination q * hA + r * hB + A * e1 + B * e2

theorem int_of_pm_one {a : ℝ} (h : a = 1 ∨ a = -1) : ∃ s : ℤ, a = s := by
  rcases h with rfl | rfl
  · exact ⟨1, by norm_num⟩
  · exact ⟨-1, by norm_num⟩

/-- the symmetry statement for the copies that two operations `h`, `h'` make of a site, free of the
tables -/
theorem copy_symmetry (c : Cell ℝ) (x y θ : ℝ) {fam : Family} {g h h' : Mat3 ℝ}
    (fg : OpFacts fam g) (fh : OpFacts fam h) (fh' : OpFacts fam h') (hcomm : Commutes c g)
    (hcl : CompEquivR g h h') :
    ∃ n m : ℤ,
      let P := c.toCartesianIsometry ((h.mul (Mat3.new θ x y)).periodic (1 : ℝ) (-(1/2) : ℝ))
      let P' := c.toCartesianIsometry ((h'.mul (Mat3.new θ x y)).periodic (1 : ℝ) (-(1/2) : ℝ))
      g.m00 * P.m00 + g.m01 * P.m10 = P'.m00 ∧ g.m00 * P.m01 + g.m01 * P.m11 = P'.m01 ∧
      g.m10 * P.m00 + g.m11 * P.m10 = P'.m10 ∧ g.m10 * P.m01 + g.m11 * P.m11 = P'.m11 ∧
      g.m00 * P.m02 + g.m01 * P.m12 + (c.toCartesian g.m02 g.m12).1
        = P'.m02 + (n : ℝ) * (C14.vecA c).1 + (m : ℝ) * (C14.vecB c).1 ∧
      g.m10 * P.m02 + g.m11 * P.m12 + (c.toCartesian g.m02 g.m12).2
        = P'.m12 + (n : ℝ) * (C14.vecA c).2 + (m : ℝ) * (C14.vecB c).2 := by
  -- in fractional coordinates `h' p = g (h p) - z` with `z` integral, so after the wrap
  -- `L_g (copy of h) + t_g = copy of h' + (n, m)`
  obtain ⟨l1, l2, l3, l4, ⟨z1, hz1⟩, ⟨z2, hz2⟩⟩ := hcl
  obtain ⟨s0, hs0⟩ := int_of_pm_one fg.m00
  obtain ⟨s1, hs1⟩ := int_of_pm_one fg.m11
  have hv1 := row_comp (x := x) (y := y) l1 l2 hz1
  have hv2 := row_comp (x := x) (y := y) l3 l4 hz2
  rw [fg.m01, zero_mul, add_zero] at hv1
  rw [fg.m10, zero_mul, zero_add] at hv2
  obtain ⟨n, e1⟩ := wrap_affine hs0 hv1
  obtain ⟨m, e2⟩ := wrap_affine hs1 hv2
  obtain ⟨-, hB, -, -⟩ := hcomm
  rw [fg.m01, zero_mul, add_zero, mul_zero, zero_add, mul_comm _ g.m11] at hB
  refine ⟨n, m, ?_⟩
  rw [cartIso_placed c h fh.opLike, cartIso_placed c h' fh'.opLike]
  refine ⟨(row_assoc ..).trans (by rw [l1, l2]), (row_assoc ..).trans (by rw [l1, l2]),
    (row_assoc ..).trans (by rw [l3, l4]), (row_assoc ..).trans (by rw [l3, l4]), ?_, ?_⟩
  · rw [C14.toCart_linear, C14.toCart_linear, C14.toCart_linear, fg.m01, zero_mul, add_zero]
    exact row_cart rfl hB e1 e2
  · rw [C14.toCart_linear, C14.toCart_linear, C14.toCart_linear, fg.m10, zero_mul, zero_add]
    exact row_cart (by simp only [C14.vecA, mul_zero]) rfl e1 e2

/-- **C04**: for every table, every cell of its family, every site `(x, y, θ)` carrying the table's
operations, every group operation `g` and every copy `k` there is a copy `k'` and a lattice vector
`n·A + m·B` such that the Cartesian operation `X ↦ L_g X + C t_g` maps the Cartesian placement of
copy `k` onto the Cartesian placement of copy `k'` translated by that lattice vector:
  * linear parts (orientation and handedness): `L_g · lin(P_k) = lin(P_k')`,
  * positions: `L_g · pos(P_k) + C t_g = pos(P_k') + n·A + m·B`. -/
theorem C04_symmetry (e : TableEntry) (he : e ∈ Generated.tables) (c : Cell ℝ)
    (hc : InFamily c e.family) (x y θ : ℝ) (g : Mat3 ℝ) (hg : g ∈ opsReal e)
    (k : Nat) (hk : k < (opsReal e).length) :
    let site : Site ℝ := ⟨opsReal e, x, y, θ⟩
    ∃ k', ∃ (_ : k' < (opsReal e).length), ∃ P P' : Mat3 ℝ, ∃ n m : ℤ,
      (site.positions.map c.toCartesianIsometry)[k]? = some P ∧
      (site.positions.map c.toCartesianIsometry)[k']? = some P' ∧
      g.m00 * P.m00 + g.m01 * P.m10 = P'.m00 ∧ g.m00 * P.m01 + g.m01 * P.m11 = P'.m01 ∧
      g.m10 * P.m00 + g.m11 * P.m10 = P'.m10 ∧ g.m10 * P.m01 + g.m11 * P.m11 = P'.m11 ∧
      g.m00 * P.m02 + g.m01 * P.m12 + (c.toCartesian g.m02 g.m12).1
        = P'.m02 + (n : ℝ) * (C14.vecA c).1 + (m : ℝ) * (C14.vecB c).1 ∧
      g.m10 * P.m02 + g.m11 * P.m12 + (c.toCartesian g.m02 g.m12).2
        = P'.m12 + (n : ℝ) * (C14.vecA c).2 + (m : ℝ) * (C14.vecB c).2 := by
  intro site
  obtain ⟨_, _, hops, hclos⟩ := real_facts e he
  -- copy `k` is made by the operation `h`; `g ∘ h` is an operation `h'` of the table, copy `k'`
  obtain ⟨h', hmem', hcl⟩ := hclos g hg _ (List.getElem_mem hk)
  obtain ⟨k', hk', rfl⟩ := List.mem_iff_getElem.mp hmem'
  have hP : ∀ (j : Nat) (hj : j < (opsReal e).length),
      (site.positions.map c.toCartesianIsometry)[j]? = some (c.toCartesianIsometry
        (((opsReal e)[j].mul (Mat3.new θ x y)).periodic (1 : ℝ) (-(1/2) : ℝ))) := by
    intro j hj
    rw [C15.positions_eq, List.getElem?_map, List.getElem?_map, List.getElem?_eq_getElem hj]
    rfl
  obtain ⟨n, m, hsym⟩ := copy_symmetry c x y θ (hops g hg) (hops _ (List.getElem_mem hk))
    (hops _ hmem') (table_commutes_cell e he c hc g hg) hcl
  exact ⟨k', hk', _, _, n, m, hP k hk, hP k' hk', hsym⟩

theorem copies_eq_order (e : TableEntry) (he : e ∈ Generated.tables) (x y θ : ℝ) :
    (⟨opsReal e, x, y, θ⟩ : Site ℝ).positions.length = e.ops.length := by
  exact (C15.positions_length _).trans ((opsReal_length e).trans (real_facts e he).1)

/-- the initial cell of `from_family` satisfies the family constraint (`cos(π/2) = 0`).  That the
constraint then survives every optimisation is not said here: it is a constraint on the angle only
(`inFamily_depends_on_angle_only`), and by C08 (`angle_unhandled_unless_monoclinic` + `C08_invariant`)
no optimisation history changes the angle of a non-oblique cell. -/
theorem initial_cell_in_family (fam : Family) (hf : fam = .Monoclinic ∨ fam = .Orthorhombic) (len : ℝ) :
    InFamily (Cell.fromFamily fam len) fam := by
  rcases hf with rfl | rfl
  · trivial
  · show Real.cos _ = 0
    simp only [Cell.fromFamily, Generated.fromFamilyAngle, BExpr.eval, pi_real]
    norm_num

theorem inFamily_depends_on_angle_only (c c' : Cell ℝ) (fam : Family) (h : c.angle = c'.angle)
    (hc : InFamily c fam) : InFamily c' fam := by
  cases fam <;> simp only [InFamily] at hc ⊢
  rw [← h]
  exact hc

end PV.Proofs.C04
