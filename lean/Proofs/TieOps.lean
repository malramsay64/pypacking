/-
  Proofs/TieOps.lean — translator tie for the `Mul` impls of the component types with a placement
  (src/shape/components/{atom2,line2,lj2}_ops.rs, the bodies of the `binop_impl_all!` invocations, both
  operand orders) and for `Shape::transform` of the three shape types: the regenerated definitions are
  the model's `Atom2.transform`, `Line2.transform`, `LJ2.transform`, `Shape.transform` (C12, C13, C01, C03).
-/
import Lemmas.TieTactics
import Generated.FnsOps
import Generated.FnsLineShape
import Generated.FnsMolShape
import Generated.FnsLJShape

namespace PV.Proofs.Tie
open PV

theorem declared_translated_ops : Gen.fnsOpsUntranslated = [] := by decide

theorem atom2_mul_right_tie (a : Atom2 ℝ) (t : Mat3 ℝ) : Gen.atom2_mul_right a t = a.transform t := rfl
theorem atom2_mul_left_tie (t : Mat3 ℝ) (a : Atom2 ℝ) : Gen.atom2_mul_left t a = a.transform t := rfl
theorem line2_mul_right_tie (l : Line2 ℝ) (t : Mat3 ℝ) : Gen.line2_mul_right l t = l.transform t := rfl
theorem line2_mul_left_tie (t : Mat3 ℝ) (l : Line2 ℝ) : Gen.line2_mul_left t l = l.transform t := rfl
theorem lj2_mul_right_tie (a : LJ2 ℝ) (t : Mat3 ℝ) : Gen.lj2_mul_right a t = a.transform t := rfl
theorem lj2_mul_left_tie (t : Mat3 ℝ) (a : LJ2 ℝ) : Gen.lj2_mul_left t a = a.transform t := rfl

attribute [tie] atom2_mul_right_tie atom2_mul_left_tie line2_mul_right_tie line2_mul_left_tie lj2_mul_right_tie
  lj2_mul_left_tie

@[tie]
theorem lineshape_transform_tie (xs : List (Line2 ℝ)) (t : Mat3 ℝ) :
    Gen.lineshape_transform xs t = xs.map (·.transform t) := by
  unfold Gen.lineshape_transform
  tie_close

@[tie]
theorem molshape_transform_tie (xs : List (Atom2 ℝ)) (t : Mat3 ℝ) :
    Gen.molshape_transform xs t = xs.map (·.transform t) := by
  unfold Gen.molshape_transform
  tie_close

@[tie]
theorem ljshape_transform_tie (xs : List (LJ2 ℝ)) (t : Mat3 ℝ) :
    Gen.ljshape_transform xs t = xs.map (·.transform t) := by
  unfold Gen.ljshape_transform
  tie_close

end PV.Proofs.Tie
