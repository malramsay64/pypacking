/-
  Proofs/C14.lean — C14: one lattice — Cartesian map, periodic images and cell area agree.

  Carrier ℝ.  `Cell.toCartesian`, `Cell.toCartesianIsometry`, `Cell.periodicImages`, `Cell.area`,
  `Cell.corners` are the model of src/cell.rs (tied to the crate by the translation ties
  Proofs/TieCell.lean, TieImages.lean — all but `corners` — and the bit-exact `cell` request
  family).  Lattice vectors: A = (a, 0), B = (b cos t, b sin t) with a = length, b = length·ratio.
-/
import Lemmas.RealCarrier
import Model.Cell
import Mathlib.Tactic.Ring
import Mathlib.Data.List.Nodup
import Mathlib.Data.List.ProdSigma

namespace PV.Proofs.C14

noncomputable def vecA (c : Cell ℝ) : ℝ × ℝ := (c.a, 0)
noncomputable def vecB (c : Cell ℝ) : ℝ × ℝ := (c.b * Real.cos c.angle, c.b * Real.sin c.angle)

/-- a placement whose projective row is `0 0 0` (a parsed operation times a site transform) or
`0 0 1` (an isometry): its position is its translation column. -/
def Affine (t : Mat3 ℝ) : Prop := t.m20 = 0 ∧ t.m21 = 0 ∧ (t.m22 = 0 ∨ t.m22 = 1)

/-- C14: fractional `(x, y)` maps to `x·A + y·B`. -/
theorem toCart_linear (c : Cell ℝ) (x y : ℝ) :
    c.toCartesian x y = (x * (vecA c).1 + y * (vecB c).1, x * (vecA c).2 + y * (vecB c).2) := by
  simp only [Cell.toCartesian, vecA, vecB, sin_real, cos_real]
  refine Prod.ext ?_ ?_ <;> simp only <;> ring

theorem toCart_add (c : Cell ℝ) (x y x' y' : ℝ) :
    c.toCartesian (x + x') (y + y') =
      ((c.toCartesian x y).1 + (c.toCartesian x' y').1, (c.toCartesian x y).2 + (c.toCartesian x' y').2) := by
  simp only [Cell.toCartesian, sin_real, cos_real]
  refine Prod.ext ?_ ?_ <;> simp only <;> ring

/-- the projective normaliser is 0 (no division) or 1 -/
theorem apply_affine (t : Mat3 ℝ) (h : Affine t) (p : Pt ℝ) :
    t.apply p = ⟨t.m00 * p.x + t.m01 * p.y + t.m02, t.m10 * p.x + t.m11 * p.y + t.m12⟩ := by
  obtain ⟨h0, h1, h2⟩ := h
  rcases h2 with h2 | h2 <;> simp [Mat3.apply, h0, h1, h2]

theorem position_of (M : Mat3 ℝ) (h : M.m22 = 0 ∨ M.m22 = 1) : M.position = ⟨M.m02, M.m12⟩ := by
  unfold Mat3.position Mat3.apply
  rcases h with h | h <;> simp [h]

theorem position_affine (t : Mat3 ℝ) (h : Affine t) : t.position = ⟨t.m02, t.m12⟩ :=
  position_of t h.2.2

/-- `to_cartesian_isometry` keeps the linear part (orientation, handedness) and the projective row,
and moves the translation to the Cartesian image of the fractional position. -/
theorem isometry_keeps_linear (c : Cell ℝ) (t : Mat3 ℝ) :
    let u := c.toCartesianIsometry t
    u.m00 = t.m00 ∧ u.m01 = t.m01 ∧ u.m10 = t.m10 ∧ u.m11 = t.m11 ∧
    u.m20 = t.m20 ∧ u.m21 = t.m21 ∧ u.m22 = t.m22 ∧
    (⟨u.m02, u.m12⟩ : Pt ℝ) = c.toCartesianPoint t.position := by
  exact ⟨rfl, rfl, rfl, rfl, rfl, rfl, rfl, rfl⟩

theorem translate_eq (c : Cell ℝ) (p : Mat3 ℝ) (hp : Affine p) (n m : Int) :
    c.toCartesianTranslate p n m =
      { p with m02 := (c.toCartesian (p.m02 + (n : ℝ)) (p.m12 + (m : ℝ))).1
               m12 := (c.toCartesian (p.m02 + (n : ℝ)) (p.m12 + (m : ℝ))).2 } := by
  simp only [Cell.toCartesianTranslate, position_affine p hp, Mat3.setPosition,
    Cell.toCartesianPoint]

theorem isometry_eq (c : Cell ℝ) (p : Mat3 ℝ) (hp : Affine p) :
    c.toCartesianIsometry p =
      { p with m02 := (c.toCartesian p.m02 p.m12).1, m12 := (c.toCartesian p.m02 p.m12).2 } := by
  simp only [Cell.toCartesianIsometry, position_affine p hp, Mat3.setPosition, Cell.toCartesianPoint]

theorem isometry_eq_translate (c : Cell ℝ) (p : Mat3 ℝ) (hp : Affine p) :
    c.toCartesianIsometry p = c.toCartesianTranslate p 0 0 := by
  rw [translate_eq c p hp, isometry_eq c p hp, Int.cast_zero, add_zero, add_zero]

theorem mem_shellRange (k n : Int) : n ∈ shellRange k ↔ |n| ≤ k := by
  unfold shellRange
  simp only [List.mem_map, List.mem_range, Int.ofNat_eq_natCast, abs_le]
  constructor
  · rintro ⟨i, hi, rfl⟩
    omega
  · rintro ⟨h1, h2⟩
    exact ⟨(n + k).toNat, by omega, by omega⟩

theorem nodup_shellRange (k : Int) : (shellRange k).Nodup := by
  refine List.Nodup.map ?_ List.nodup_range
  intro i j hij
  simp only [Int.ofNat_eq_natCast] at hij
  omega

theorem length_shellRange (k : Int) : (shellRange k).length = (2 * k + 1).toNat := by
  simp [shellRange]

theorem imageIndices_eq (k : Int) (zero : Bool) :
    imageIndices k zero =
      (shellRange k ×ˢ shellRange k).filter fun (p : Int × Int) => !(!zero && p.1 == 0 && p.2 == 0) :=
  rfl

theorem mem_imageIndices (k : Int) (zero : Bool) (n m : Int) :
    (n, m) ∈ imageIndices k zero ↔ |n| ≤ k ∧ |m| ≤ k ∧ (zero = false → ¬(n = 0 ∧ m = 0)) := by
  rw [imageIndices_eq, List.mem_filter, List.mem_product, mem_shellRange, mem_shellRange]
  cases zero <;> simp [and_assoc, imp_iff_not_or]

theorem nodup_imageIndices (k : Int) (zero : Bool) : (imageIndices k zero).Nodup := by
  rw [imageIndices_eq]
  exact ((nodup_shellRange k).product (nodup_shellRange k)).filter _

theorem imageIndices_true_perm (k : Int) (hk : 0 ≤ k) :
    (imageIndices k true).Perm ((0, 0) :: imageIndices k false) := by
  refine (List.perm_ext_iff_of_nodup (nodup_imageIndices k true) ?_).2 ?_
  · rw [List.nodup_cons, mem_imageIndices]
    exact ⟨by simp, nodup_imageIndices k false⟩
  · rintro ⟨n, m⟩
    rw [List.mem_cons, mem_imageIndices, mem_imageIndices, Prod.mk.injEq]
    constructor
    · rintro ⟨h1, h2, _⟩
      by_cases h0 : n = 0 ∧ m = 0
      · exact Or.inl h0
      · exact Or.inr ⟨h1, h2, fun _ => h0⟩
    · rintro (⟨rfl, rfl⟩ | ⟨h1, h2, _⟩)
      · exact ⟨by rwa [abs_zero], by rwa [abs_zero], nofun⟩
      · exact ⟨h1, h2, nofun⟩

theorem length_imageIndices (k : Int) (zero : Bool) :
    (imageIndices k zero).length =
      if k < 0 then 0 else (2 * k.toNat + 1) ^ 2 - (if zero then 0 else 1) := by
  by_cases hk : k < 0
  · have : shellRange k = [] := by
      apply List.eq_nil_of_length_eq_zero
      rw [length_shellRange]
      omega
    rw [if_pos hk, imageIndices_eq, this]
    rfl
  · have htrue : (imageIndices k true).length = (2 * k.toNat + 1) ^ 2 := by
      have : (2 * k + 1).toNat = 2 * k.toNat + 1 := by omega
      simp [imageIndices_eq, List.length_product, length_shellRange, this, sq]
    rw [if_neg hk]
    cases zero
    · have h := (imageIndices_true_perm k (not_lt.mp hk)).length_eq
      rw [htrue, List.length_cons] at h
      simp only [Bool.false_eq_true, if_false]
      omega
    · simpa using htrue

/-- C14: the periodic images of an affine placement `t` within `k` shells are exactly `t` translated
by `n·A + m·B` for the index pairs `(n, m)` of `mem_imageIndices`, in that order: same linear part
and projective row, translation `cart(position t) + n·A + m·B`. -/
theorem images_spec (c : Cell ℝ) (t : Mat3 ℝ) (h : Affine t) (k : Int) (zero : Bool) :
    c.periodicImages t k zero = (imageIndices k zero).map fun (nm : Int × Int) =>
      { t with
        m02 := (c.toCartesian t.m02 t.m12).1 + (nm.1 : ℝ) * (vecA c).1 + (nm.2 : ℝ) * (vecB c).1
        m12 := (c.toCartesian t.m02 t.m12).2 + (nm.1 : ℝ) * (vecA c).2 + (nm.2 : ℝ) * (vecB c).2 } := by
  apply List.map_congr_left
  rintro ⟨n, m⟩ _
  simp only [translate_eq c t h, toCart_add, toCart_linear c n m, add_assoc]

theorem images_are_translates (c : Cell ℝ) (t : Mat3 ℝ) (h : Affine t) (k : Int) (zero : Bool)
    (u : Mat3 ℝ) (hu : u ∈ c.periodicImages t k zero) :
    ∃ n m : Int, (n, m) ∈ imageIndices k zero ∧
      u = { c.toCartesianIsometry t with
            m02 := (c.toCartesianIsometry t).m02 + (n : ℝ) * (vecA c).1 + (m : ℝ) * (vecB c).1
            m12 := (c.toCartesianIsometry t).m12 + (n : ℝ) * (vecA c).2 + (m : ℝ) * (vecB c).2 } := by
  rw [images_spec c t h k zero, List.mem_map] at hu
  obtain ⟨⟨n, m⟩, hmem, rfl⟩ := hu
  refine ⟨n, m, hmem, ?_⟩
  rw [isometry_eq c t h]

/-- C14: the cell area is the cross product `A × B` … -/
theorem area_eq_cross (c : Cell ℝ) :
    c.area = (vecA c).1 * (vecB c).2 - (vecA c).2 * (vecB c).1 := by
  simp only [Cell.area, vecA, vecB, sin_real]
  ring

/-- … which is `|A × B|` for every cell with non-negative sides and angle in `[0, π]`
(in particular throughout the optimiser's box `angle ∈ [π/6, π/2]`). -/
theorem area_eq_abs_cross (c : Cell ℝ) (ha : 0 ≤ c.length) (hr : 0 ≤ c.ratio)
    (h0 : 0 ≤ c.angle) (hpi : c.angle ≤ Real.pi) :
    c.area = |(vecA c).1 * (vecB c).2 - (vecA c).2 * (vecB c).1| := by
  rw [← area_eq_cross, abs_of_nonneg]
  have hs := Real.sin_nonneg_of_nonneg_of_le_pi h0 hpi
  exact mul_nonneg (mul_nonneg hs ha) (mul_nonneg ha hr)

/-- corners are the images of `(∓½, ∓½)`, i.e. `∓½A ∓ ½B`, in the order (−,−), (−,+), (+,+), (+,−) -/
theorem corners_spec (c : Cell ℝ) :
    c.corners =
      [ ⟨-(1/2) * (vecA c).1 - (1/2) * (vecB c).1, -(1/2) * (vecA c).2 - (1/2) * (vecB c).2⟩,
        ⟨-(1/2) * (vecA c).1 + (1/2) * (vecB c).1, -(1/2) * (vecA c).2 + (1/2) * (vecB c).2⟩,
        ⟨(1/2) * (vecA c).1 + (1/2) * (vecB c).1, (1/2) * (vecA c).2 + (1/2) * (vecB c).2⟩,
        ⟨(1/2) * (vecA c).1 - (1/2) * (vecB c).1, (1/2) * (vecA c).2 - (1/2) * (vecB c).2⟩ ] := by
  simp only [Cell.corners, List.map_cons, List.map_nil, Cell.toCartesianPoint, toCart_linear, q_real,
    Nat.cast_one, Nat.cast_ofNat, sub_eq_add_neg, neg_mul]

/-- every `Transform2::new` is affine -/
example (r x y : ℝ) : Affine (Mat3.new r x y) := by
  refine ⟨?_, ?_, Or.inr ?_⟩ <;> simp [Mat3.new]

end PV.Proofs.C14
