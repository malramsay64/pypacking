/-
  Proofs/C17.lean — C17: symmetry-operation strings parse to the affine map they denote.

  `fromOperations` is the model of `Transform2::from_operations` (src/transform.rs:121-180); the
  `parse` correspondence ties it to the Rust function bit-for-bit on grammar strings, mutated
  strings and arbitrary Unicode, and Proofs/TieParse proves it equal to the translated body of that
  function for every string and carrier.  Here the grammar of the property is defined inductively,
  with its denotation ("the value of the expression"), and the parser is proved to compute it, for
  every string of the grammar, over any field `K` (so in particular ℚ and ℝ).

  At `Float` the same definition produces matrix entries in {0, ±1} exactly and each constant by
  a single IEEE division of two exactly represented integers, i.e. the correctly rounded value of
  the rational entry.
-/
import Generated.Panics
import Lemmas.ParserLemmas
import Mathlib.Tactic.Ring
import Mathlib.Algebra.Field.Basic

namespace PV.Proofs.C17
open PV PV.ParserLemmas

inductive Body
  | x | y
  | num (d : Nat)            -- a single digit
  | frac (d e : Nat)         -- digit '/' digit
deriving DecidableEq

/-- a signed term with its layout (how many spaces go where, and whether a positive term carries
an explicit `+`). -/
structure Term where
  neg : Bool
  body : Body
  plus : Bool := false   -- explicit '+' (only meaningful when `neg = false`)
  sp0 : Nat := 0         -- spaces before the sign
  sp1 : Nat := 0         -- spaces between sign and body
  sp2 : Nat := 0         -- spaces before '/'
  sp3 : Nat := 0         -- spaces after '/'
  sp4 : Nat := 0         -- spaces after the body

def spaces (n : Nat) : List Char := List.replicate n ' '
def digitChar (d : Nat) : Char := Char.ofNat (48 + d)

def Body.render (sp2 sp3 : Nat) : Body → List Char
  | .x => ['x']
  | .y => ['y']
  | .num d => [digitChar d]
  | .frac d e => [digitChar d] ++ spaces sp2 ++ ['/'] ++ spaces sp3 ++ [digitChar e]

def Term.render (t : Term) : List Char :=
  spaces t.sp0 ++ (if t.neg then ['-'] else if t.plus then ['+'] else []) ++ spaces t.sp1
    ++ t.body.render t.sp2 t.sp3 ++ spaces t.sp4

abbrev Comp := List Term

def Comp.render (c : Comp) : List Char := c.flatMap Term.render

structure Op where
  paren : Bool
  c0 : Comp
  c1 : Comp

def Op.render (o : Op) : List Char :=
  (if o.paren then ['('] else []) ++ o.c0.render ++ [','] ++ o.c1.render
    ++ (if o.paren then [')'] else [])

def Body.isX : Body → Bool | .x => true | _ => false
def Body.isY : Body → Bool | .y => true | _ => false
def Body.isConst : Body → Bool | .num _ => true | .frac _ _ => true | _ => false

def Body.digitsOk : Body → Bool
  | .num d => d < 10
  | .frac d e => d < 10 && 1 ≤ e && e < 10
  | _ => true

def Comp.WF (c : Comp) : Bool :=
  c ≠ [] && (c.filter (·.body.isX)).length ≤ 1 && (c.filter (·.body.isY)).length ≤ 1
    && (c.filter (·.body.isConst)).length ≤ 1 && c.all (·.body.digitsOk)

def Op.WF (o : Op) : Bool := o.c0.WF && o.c1.WF

theorem Comp.wf_iff (c : Comp) :
    c.WF = true ↔ c ≠ [] ∧ (c.filter (·.body.isX)).length ≤ 1 ∧ (c.filter (·.body.isY)).length ≤ 1 ∧
      (c.filter (·.body.isConst)).length ≤ 1 ∧ c.all (·.body.digitsOk) = true := by
  simp only [Comp.WF, Bool.and_eq_true, decide_eq_true_eq, and_assoc]

section
variable {K : Type} [Field K]

def sgn (neg : Bool) : K := if neg then -1 else 1

def Term.eval (t : Term) (x y : K) : K :=
  match t.body with
  | .x => sgn t.neg * x
  | .y => sgn t.neg * y
  | .num d => sgn t.neg * (d : K)
  | .frac d e => sgn t.neg * (d : K) / (e : K)

def Comp.eval (c : Comp) (x y : K) : K := (c.map (·.eval x y)).sum

theorem lex_digitChar : ∀ {d : Nat}, d < 10 → lex (digitChar d) = some (.digit d)
  | 0, _ | 1, _ | 2, _ | 3, _ | 4, _ | 5, _ | 6, _ | 7, _ | 8, _ | 9, _ => rfl

theorem run_spaces {α : Type} [Mul α] [Div α] [Neg α] [NatCast α]
    (s : PState α) (n : Nat) (rest : List Char) :
    runChars s (spaces n ++ rest) = runChars s rest := by
  induction n with
  | zero => rfl
  | succ n ih =>
    rw [spaces, List.replicate_succ, List.cons_append, runChars_cons_lex (t := .blank) rfl]
    exact ih

theorem run_sign (neg plus : Bool) (k a b : K) (rest : List Char) :
    runChars (⟨1, k, none, a, b⟩ : PState K)
        ((if neg then ['-'] else if plus then ['+'] else []) ++ rest)
      = runChars ⟨sgn neg, k, none, a, b⟩ rest := by
  cases neg
  · cases plus
    · rfl
    · exact runChars_cons_lex (t := .blank) rfl _ _
  · rw [if_pos rfl, List.singleton_append, runChars_cons_lex (t := .minus) rfl]
    simp only [PState.act, sgn, Nat.cast_one, if_true]

def Term.cxv (t : Term) : K := match t.body with | .x => sgn t.neg | _ => 0
def Term.cyv (t : Term) : K := match t.body with | .y => sgn t.neg | _ => 0
def Term.cv (t : Term) : K :=
  match t.body with
  | .num d => sgn t.neg * (d : K)
  | .frac d e => sgn t.neg * (d : K) / (e : K)
  | _ => 0

def Term.step (t : Term) (s : PState K) : PState K :=
  { s with
    cx := if t.body.isX then t.cxv else s.cx
    cy := if t.body.isY then t.cyv else s.cy
    const := if t.body.isConst then t.cv else s.const }

/-- between two terms the machine is at rest (`sign = 1`, no operator pending) -/
theorem run_term (s : PState K) (hsign : s.sign = 1) (hop : s.op = none) (t : Term)
    (h : t.body.digitsOk = true) (rest : List Char) :
    runChars s (t.render ++ rest) = runChars (t.step s) rest := by
  obtain ⟨sg, k, op, a, b⟩ := s
  obtain ⟨neg, body, plus, sp0, sp1, sp2, sp3, sp4⟩ := t
  subst hsign hop
  simp only [Term.render, List.append_assoc]
  rw [run_spaces, run_sign, run_spaces]
  cases body with
  | x =>
    rw [Body.render, List.singleton_append, runChars_cons_lex (t := .x) rfl, run_spaces]
    simp only [PState.act, Nat.cast_one]
    rfl
  | y =>
    rw [Body.render, List.singleton_append, runChars_cons_lex (t := .y) rfl, run_spaces]
    simp only [PState.act, Nat.cast_one]
    rfl
  | num d =>
    simp only [Body.digitsOk, decide_eq_true_eq] at h
    rw [Body.render, List.singleton_append, runChars_cons_lex (lex_digitChar h), run_spaces]
    simp only [PState.act, Nat.cast_one]
    rfl
  | frac d e =>
    simp only [Body.digitsOk, Bool.and_eq_true, decide_eq_true_eq] at h
    simp only [Body.render, List.append_assoc, List.cons_append, List.nil_append]
    rw [runChars_cons_lex (lex_digitChar h.1.1), run_spaces, runChars_cons_lex (t := .slash) rfl,
      run_spaces, runChars_cons_lex (lex_digitChar h.2), run_spaces]
    simp only [PState.act, Nat.cast_one, one_mul]
    rfl

theorem run_comp (c : Comp) (h : c.all (·.body.digitsOk) = true) (s : PState K)
    (hsign : s.sign = 1) (hop : s.op = none) (rest : List Char) :
    runChars s (c.render ++ rest) = runChars (c.foldl (fun s t => t.step s) s) rest := by
  induction c generalizing s with
  | nil => rfl
  | cons t c ih =>
    simp only [List.all_cons, Bool.and_eq_true] at h
    simp only [Comp.render, List.flatMap_cons, List.append_assoc, List.foldl_cons]
    rw [run_term s hsign hop t h.1]
    exact ih h.2 (t.step s) hsign hop

theorem Term.eval_eq (t : Term) (x y : K) : t.eval x y = t.cxv * x + t.cyv * y + t.cv := by
  unfold Term.eval Term.cxv Term.cyv Term.cv
  cases t.body <;> simp

theorem Comp.eval_eq (c : Comp) (x y : K) :
    Comp.eval c x y = (c.map Term.cxv).sum * x + (c.map Term.cyv).sum * y + (c.map Term.cv).sum := by
  unfold Comp.eval
  induction c with
  | nil => simp
  | cons t c ih =>
    rw [List.map_cons, List.sum_cons, ih, Term.eval_eq]
    simp only [List.map_cons, List.sum_cons]
    ring

theorem Term.coeff_zero (t : Term) :
    (t.body.isX = false → t.cxv (K := K) = 0) ∧ (t.body.isY = false → t.cyv (K := K) = 0) ∧
    (t.body.isConst = false → t.cv (K := K) = 0) := by
  unfold Term.cxv Term.cyv Term.cv Body.isX Body.isY Body.isConst
  cases t.body <;> simp only [Bool.true_eq_false, false_implies, implies_true, and_self]

/-- a field of the state that each step either overwrites (with `v t`, when `p t`) or leaves alone,
that starts at zero if it is written at all and is written at most once, ends as the sum of `v` -/
theorem foldl_overwrite {σ τ : Type} (step : σ → τ → σ) (get : σ → K) (p : τ → Bool) (v : τ → K)
    (hstep : ∀ s t, get (step s t) = if p t then v t else get s) (hv : ∀ t, p t = false → v t = 0)
    (l : List τ) (h : (l.filter p).length ≤ 1) (s : σ) (h0 : l.filter p ≠ [] → get s = 0) :
    get (l.foldl step s) = get s + (l.map v).sum := by
  induction l generalizing s with
  | nil => exact (add_zero _).symm
  | cons t l ih =>
    rw [List.foldl_cons, List.map_cons, List.sum_cons]
    cases hp : p t with
    | true =>
      rw [List.filter_cons_of_pos hp] at h h0
      have hl : l.filter p = [] := List.eq_nil_of_length_eq_zero (Nat.le_zero.mp (Nat.le_of_succ_le_succ h))
      rw [ih (hl ▸ Nat.zero_le 1) _ (fun hne => absurd hl hne), hstep, hp, if_pos rfl,
        h0 (List.cons_ne_nil _ _), zero_add]
    | false =>
      rw [List.filter_cons_of_neg (ne_true_of_eq_false hp)] at h h0
      have h0' : l.filter p ≠ [] → get (step s t) = 0 := by
        rw [hstep, hp]
        exact h0
      rw [ih h _ h0', hstep, hp, hv t hp, zero_add]
      rfl

theorem parseRow_comp (c : Comp) (h : c.WF = true) :
    parseRow (α := K) c.render
      = .ok ((c.map Term.cxv).sum, (c.map Term.cyv).sum, (c.map Term.cv).sum) := by
  obtain ⟨_, hx, hy, hk, hd⟩ := c.wf_iff.mp h
  have hrun := run_comp c hd (PState.init : PState K) Nat.cast_one rfl []
  rw [List.append_nil] at hrun
  -- each of the three fields is written by the terms of one kind, of which there is at most one
  have hcx := foldl_overwrite (fun s (t : Term) => t.step s) (·.cx) (·.body.isX) Term.cxv
    (fun _ _ => rfl) (fun t => t.coeff_zero.1) c hx (PState.init (α := K))
    (fun _ => Nat.cast_zero)
  have hcy := foldl_overwrite (fun s (t : Term) => t.step s) (·.cy) (·.body.isY) Term.cyv
    (fun _ _ => rfl) (fun t => t.coeff_zero.2.1) c hy (PState.init (α := K))
    (fun _ => Nat.cast_zero)
  have hcv := foldl_overwrite (fun s (t : Term) => t.step s) (·.const) (·.body.isConst) Term.cv
    (fun _ _ => rfl) (fun t => t.coeff_zero.2.2) c hk (PState.init (α := K))
    (fun _ => Nat.cast_zero)
  rw [parseRow, hrun]
  simp only [runChars, hcx, hcy, hcv]
  simp only [PState.init, Nat.cast_zero, zero_add]

end

theorem Comp.render_ne_nil (c : Comp) (h : c ≠ []) : c.render ≠ [] := by
  cases c with
  | nil => exact absurd rfl h
  | cons t c => cases hb : t.body <;> simp [Comp.render, Term.render, Body.render, hb]

/-- the two rendered components parse, so they hold no comma and no brace -/
theorem split_render (o : Op) (h : o.WF = true) :
    splitTerminator (trimBraces o.render) = [o.c0.render, o.c1.render] := by
  simp only [Op.WF, Bool.and_eq_true] at h
  have hne : o.c1 ≠ [] := (o.c1.wf_iff.mp h.2).1
  have hpre : ∀ ch ∈ (if o.paren then ['('] else []), isBrace ch = true := by
    cases o.paren <;> simp [isBrace]
  have hpost : ∀ ch ∈ (if o.paren then [')'] else []), isBrace ch = true := by
    cases o.paren <;> simp [isBrace]
  have hs := split_join _ _ o.c0.render o.c1.render hpre hpost
    (lex_isSome_of_parseRow_ok (parseRow_comp (K := ℚ) o.c0 h.1))
    (lex_isSome_of_parseRow_ok (parseRow_comp (K := ℚ) o.c1 h.2)) (Comp.render_ne_nil _ hne)
  simpa [Op.render] using hs

section
variable {K : Type} [Field K]

/-- **C17 (grammar clause).** Every string of the grammar parses, and the resulting matrix is the
affine map sending `(x, y)` to the values of the two expressions; its last row is zero. -/
theorem grammar_sound (o : Op) (h : o.WF = true) :
    ∃ m : Mat3 K, fromOperations (α := K) o.render = .ok m ∧
      m.m20 = 0 ∧ m.m21 = 0 ∧ m.m22 = 0 ∧
      ∀ x y : K, m.m00 * x + m.m01 * y + m.m02 = o.c0.eval x y ∧
                 m.m10 * x + m.m11 * y + m.m12 = o.c1.eval x y := by
  have hs := split_render o h
  simp only [Op.WF, Bool.and_eq_true] at h
  have hm := fromOperations_two (α := K) hs
  rw [parseRow_comp o.c0 h.1, parseRow_comp o.c1 h.2] at hm
  exact ⟨_, hm, Nat.cast_zero, Nat.cast_zero, Nat.cast_zero, fun x y =>
    ⟨(Comp.eval_eq o.c0 x y).symm, (Comp.eval_eq o.c1 x y).symm⟩⟩

end

/-- **C17 (robustness clause).** On every string whatsoever the parser returns a matrix or one of
the three error kinds; in particular it is total (the model has no `panic` outcome — that the Rust
function has no reachable panic site is the generated panic-inventory obligation below). -/
theorem total (s : List Char) :
    (∃ m : Mat3 Rat, fromOperations (α := Rat) s = .ok m) ∨
    fromOperations (α := Rat) s = .error .tooFew ∨
    fromOperations (α := Rat) s = .error .tooMany ∨
    ∃ c, fromOperations (α := Rat) s = .error (.invalid c) := by
  match fromOperations (α := Rat) s with
  | .ok m => exact .inl ⟨m, rfl⟩
  | .error .tooFew => exact .inr (.inl rfl)
  | .error .tooMany => exact .inr (.inr (.inl rfl))
  | .error (.invalid c) => exact .inr (.inr (.inr ⟨c, rfl⟩))

def inAlphabet (c : Char) : Bool :=
  c == 'x' || c == 'y' || c == '*' || c == '/' || c == '-' || c == ' ' || c == '+'
    || ('0' ≤ c && c ≤ '9')

theorem inAlphabet_eq (c : Char) : inAlphabet c = (lex c).isSome := by
  unfold inAlphabet lex
  simp only [apply_ite Option.isSome, Option.isSome_some, Option.isSome_none, Bool.if_true_left,
    Bool.decide_eq_true, Bool.decide_and, Bool.or_false]
  ac_rfl

theorem invalid_char_reported (s : List Char) (r0 r1 : List Char)
    (hs : splitTerminator (trimBraces s) = [r0, r1])
    (hbad : ∃ c ∈ r0 ++ r1, inAlphabet c = false) :
    ∃ c, inAlphabet c = false ∧ fromOperations (α := Rat) s = .error (.invalid c) := by
  rw [fromOperations_spec hs]
  cases hf : (r0 ++ r1).find? (fun c => (lex c).isNone) with
  | some c => exact ⟨c, by simpa [inAlphabet_eq] using List.find?_some hf, rfl⟩
  | none =>
    obtain ⟨c, hmem, hb⟩ := hbad
    exact absurd hb (by simpa [inAlphabet_eq] using List.find?_eq_none.mp hf c hmem)

theorem too_few (s : List Char) (h : (splitTerminator (trimBraces s)).length < 2) :
    fromOperations (α := Rat) s = .error .tooFew :=
  fromOperations_few s h

theorem too_many (s : List Char) (h : 2 < (splitTerminator (trimBraces s)).length) :
    fromOperations (α := Rat) s = .error .tooMany :=
  fromOperations_many s h

/-- e.g. `2x` and `x-` parse: the property's "anything else is … parsed" -/
theorem alphabet_accepted (s : List Char) (r0 r1 : List Char)
    (hs : splitTerminator (trimBraces s) = [r0, r1])
    (hok : ∀ c ∈ r0 ++ r1, inAlphabet c = true) :
    ∃ m : Mat3 Rat, fromOperations (α := Rat) s = .ok m := by
  have hnone : (r0 ++ r1).find? (fun c => (lex c).isNone) = none :=
    List.find?_eq_none.mpr (by simpa [inAlphabet_eq, Option.isSome_iff_ne_none] using hok)
  rw [fromOperations_spec hs, hnone]
  exact ⟨_, rfl⟩

example : (Op.mk true [⟨true, .x, false, 0, 0, 0, 0, 0⟩, ⟨false, .frac 1 2, true, 1, 1, 0, 0, 0⟩]
    [⟨false, .y, false, 1, 0, 0, 0, 0⟩]).render = "(-x + 1/2, y)".toList := by decide
example : (Op.mk true [⟨true, .x, false, 0, 0, 0, 0, 0⟩, ⟨false, .frac 1 2, true, 1, 1, 0, 0, 0⟩]
    [⟨false, .y, false, 1, 0, 0, 0, 0⟩]).WF = true := by decide

/-- the panic inventory (regenerated from the text of `from_operations` on every run): the only
panic-capable constructs are the three matrix index expressions `transform[(index, 0|1|2)]` of a
3×3 matrix with `index` ranging over the positions of `operations`, whose length was checked to be
exactly 2 before the loop — so they are in range; there is no `unwrap`/`expect`/`panic!`/`assert!`
(the digit parse uses `?`, i.e. an error, and only sees '0'..='9'). A new panic-capable construct
changes this list and breaks the obligation. -/
theorem declared_panic_sites :
    Generated.fromOperationsPanicSites =
      ["index transform[(index, 0)]", "index transform[(index, 1)]", "index transform[(index, 2)]"] ∧
    Generated.panicsUnrecognised = [] :=
  ⟨rfl, rfl⟩

end PV.Proofs.C17
