/-
  Proofs/C13.lean — C13: the pair potential is the shifted, truncated 12-6 Lennard-Jones law.
  Carrier ℝ (and ℚ for the asymmetry witness).  `LJ2.energy`, `Shape.energy` are the model of
  src/shape/components/lj2.rs and src/shape/lj_shape.rs (translation ties Proofs/TieLJ.lean,
  TieLJShape.lean; bit-exact `pair` family).
-/
import Lemmas.ListSums
import Proofs.C12
import Mathlib.Tactic.Ring
import Mathlib.Tactic.NormNum

namespace PV.Proofs.C13
open PV.C01Geom

def r2 (a b : LJ2 ℝ) : ℝ := (a.x - b.x) ^ 2 + (a.y - b.y) ^ 2

/-- the 12-6 law as a function of the squared distance: `4ε((σ/r)¹² − (σ/r)⁶)` for `r = √rsq`
(`lj_of_distance`) -/
noncomputable def lj (sigma eps rsq : ℝ) : ℝ := 4 * eps * ((sigma ^ 2 / rsq) ^ 6 - (sigma ^ 2 / rsq) ^ 3)

theorem shift_eq (sigma c : ℝ) :
    (sigma / c) ^ 12 - (sigma / c) ^ 6 = (sigma ^ 2 / c ^ 2) ^ 6 - (sigma ^ 2 / c ^ 2) ^ 3 := by
  simp only [div_pow, ← pow_mul]

/-- C13, uncut: the energy is the 12-6 law with the σ, ε of the first particle (this and
`energy_some` are the model's `LJ2.energy` as ordinary real arithmetic) -/
theorem lj_uncut (a b : LJ2 ℝ) (hc : a.cutoff = none) : a.energy b = lj a.sigma a.epsilon (r2 a b) := by
  unfold LJ2.energy
  simp (disch := norm_num) only [hc, powi_eq_pow, normSq_real, Nat.cast_ofNat, lj, r2]
  ring

theorem energy_some (a b : LJ2 ℝ) (c : ℝ) (hc : a.cutoff = some c) :
    a.energy b = if r2 a b < c * c then
      lj a.sigma a.epsilon (r2 a b) - lj a.sigma a.epsilon (c ^ 2) else 0 := by
  unfold LJ2.energy
  have hn : normSq (a.x - b.x) (a.y - b.y) = r2 a b := by rw [normSq_real, r2]
  simp (disch := norm_num) only [hc, hn, powi_eq_pow, sc0, Nat.cast_zero, Nat.cast_ofNat]
  split_ifs with h1
  · rw [shift_eq, lj, lj]
    ring
  · rfl

theorem lj_of_distance (sigma eps r : ℝ) (hr : 0 < r) :
    lj sigma eps (r ^ 2) = 4 * eps * ((sigma / r) ^ 12 - (sigma / r) ^ 6) := by
  have _ := hr  -- the identity holds for every real `r`; `hr` is not needed
  unfold lj
  rw [shift_eq]

/-- C13, inside the cutoff: the law shifted so that it vanishes at the cutoff -/
theorem lj_cut_inside (a b : LJ2 ℝ) (c : ℝ) (hc : a.cutoff = some c) (h : r2 a b < c * c) :
    a.energy b = lj a.sigma a.epsilon (r2 a b) - lj a.sigma a.epsilon (c ^ 2) := by
  rw [energy_some a b c hc, if_pos h]

/-- C13, at and beyond the cutoff: exactly zero -/
theorem lj_cut_outside (a b : LJ2 ℝ) (c : ℝ) (hc : a.cutoff = some c) (h : c * c ≤ r2 a b) :
    a.energy b = 0 := by
  rw [energy_some a b c hc, if_neg (not_lt.mpr h)]

/-- C13, continuity at the cutoff: the inside formula is 0 at `r² = c²` -/
theorem lj_zero_at_cutoff (sigma eps c : ℝ) : lj sigma eps (c ^ 2) - lj sigma eps (c ^ 2) = 0 := by
  ring

/-- C13: the energy depends on the two positions only through their squared distance -/
theorem lj_distance_only (a b a' b' : LJ2 ℝ) (hs : a.sigma = a'.sigma) (he : a.epsilon = a'.epsilon)
    (hc : a.cutoff = a'.cutoff) (hr : r2 a b = r2 a' b') : a.energy b = a'.energy b' := by
  cases hca : a.cutoff with
  | none =>
    rw [lj_uncut a b hca, lj_uncut a' b' (hc ▸ hca), hs, he, hr]
  | some c =>
    rw [energy_some a b c hca, energy_some a' b' c (hc ▸ hca), hs, he, hr]

/-- affine placement with orthogonal linear part (rigid motion or reflection) -/
def Rigid (t : Mat3 ℝ) : Prop :=
  t.m20 = 0 ∧ t.m21 = 0 ∧ (t.m22 = 0 ∨ t.m22 = 1) ∧
  t.m00 * t.m00 + t.m10 * t.m10 = 1 ∧ t.m01 * t.m01 + t.m11 * t.m11 = 1 ∧
  t.m00 * t.m01 + t.m10 * t.m11 = 0

/-- C13: invariant under a common rigid motion or reflection; the transform keeps σ, ε, cutoff -/
theorem lj_rigid_invariant (a b : LJ2 ℝ) (t : Mat3 ℝ) (ht : Rigid t) :
    (a.transform t).energy (b.transform t) = a.energy b := by
  obtain ⟨h20, h21, h22, ho⟩ := ht
  refine lj_distance_only _ _ _ _ rfl rfl rfl ?_
  rw [r2, r2, ← nrm_sq, ← nrm_sq (a.x - b.x)]
  exact congrArg (· ^ 2) (C12.apply_dist t ⟨h20, h21, h22⟩ ho ⟨a.x, a.y⟩ ⟨b.x, b.y⟩)

/-- completing the square -/
theorem lj_add_eps (sigma eps rsq : ℝ) :
    lj sigma eps rsq + eps = eps * (2 * (sigma ^ 2 / rsq) ^ 3 - 1) ^ 2 := by
  unfold lj
  ring

/-- C13, minimum (uncut, `ε ≥ 0`): the energy is at least `−ε` … -/
theorem lj_min (sigma eps rsq : ℝ) (he : 0 ≤ eps) : -eps ≤ lj sigma eps rsq :=
  neg_le_iff_add_nonneg.mpr (lj_add_eps sigma eps rsq ▸ mul_nonneg he (sq_nonneg _))

/-- … with equality exactly where `(σ²/r²)³ = 1/2`, i.e. `r⁶ = 2σ⁶`, i.e. `r = 2^(1/6) σ` (`ε > 0`) -/
theorem lj_min_iff (sigma eps rsq : ℝ) (he : 0 < eps) :
    lj sigma eps rsq = -eps ↔ (sigma ^ 2 / rsq) ^ 3 = 1 / 2 := by
  rw [← add_eq_zero_iff_eq_neg, lj_add_eps, mul_eq_zero, or_iff_right he.ne', sq_eq_zero_iff,
    sub_eq_zero, eq_div_iff two_ne_zero, mul_comm]

/-- C13: symmetric between like particles (same σ, ε, cutoff) -/
theorem lj_symm_partial (a b : LJ2 ℝ) (hs : a.sigma = b.sigma) (he : a.epsilon = b.epsilon)
    (hc : a.cutoff = b.cutoff) : a.energy b = b.energy a := by
  apply lj_distance_only a b b a hs he hc
  rw [r2, r2]
  ring

/-- C13, molecules: the energy of two molecules is the sum over their particle pairs -/
theorem shape_energy_sum (xs ys : List (LJ2 ℝ)) :
    (Shape.lj xs).energy (Shape.lj ys) = (xs.map fun x => (ys.map fun y => x.energy y).sum).sum := by
  simp only [Shape.energy, fsum_eq_sum, sum_flatMap_map]

/-- generated trimer constants: σ = 2·radius and cutoff 3.5 on every particle -/
theorem declared_trimer_constants :
    Generated.ljTrimerSigmaFactor = .lit 2 1 ∧ Generated.ljTrimerCutoff = .lit 7 2 := by
  decide

/-- the particles `LJShape2::from_trimer` builds -/
theorem trimer_particles (radius angle distance : ℝ) :
    ∃ p0 p1 p2 : LJ2 ℝ, Shape.ljTrimer radius angle distance = .lj [p0, p1, p2] ∧
      p0.sigma = 2 ∧ p1.sigma = 2 * radius ∧ p2.sigma = 2 * radius ∧
      p0.cutoff = some (7/2) ∧ p1.cutoff = some (7/2) ∧ p2.cutoff = some (7/2) ∧
      p0.epsilon = 1 ∧ p1.epsilon = 1 ∧ p2.epsilon = 1 := by
  refine ⟨_, _, _, rfl, ?_⟩
  simp [Generated.ljTrimerSigmaFactor, Generated.ljTrimerCutoff, BExpr.eval, sc0, sc1, q]

/-- known finding F11: between UNLIKE particles the energy is not symmetric — `energy` uses
only the first particle's σ, ε and cutoff.  Witness over ℚ, decided in the kernel:
σ = 2 at the origin against σ = 6/5 at distance 21/10. -/
theorem lj_asymmetric_unlike :
    (⟨0, 0, 2, 1, none⟩ : LJ2 Rat).energy ⟨21/10, 0, 6/5, 1, none⟩ ≠
    (⟨21/10, 0, 6/5, 1, none⟩ : LJ2 Rat).energy ⟨0, 0, 2, 1, none⟩ := by
  decide +kernel

example : lj 1 1 1 = 0 := by
  norm_num [lj]

end PV.Proofs.C13
