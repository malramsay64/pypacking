/-
  Proofs/SrcC18.lean — the cooling-factor clauses of C18 stated about the schedule arithmetic of
  `BuildOptimiser::build` as translated (Generated/FnsBuild.lean), from Proofs/C18 by Proofs/TieBuild.
-/
import Proofs.C18
import Proofs.TieBuild

namespace PV.Proofs.Source
open PV PV.Proofs.Tie

/-- **C18 about the source**: with a ratio, the cooling factor the translated `build` computes is `1 - ratio` -/
theorem C18_source_factor_ratio (b : Builder ℝ) (c : Cfg ℝ) (ρ : ℝ) (hr : b.ktRatio = some ρ)
    (h : b.build = .ok c) : Gen.build_kt_ratio b = 1 - ρ := by
  rw [build_kt_ratio_tie b c h]
  exact C18.factor_ratio b c ρ hr h

/-- **C18 about the source**: with a finishing temperature, `loops` applications of the translated cooling
factor take `kt_start` to `kt_finish`, `loops` being the translated loop count -/
theorem C18_source_factor_finish (b : Builder ℝ) (c : Cfg ℝ) (φ : ℝ) (hr : b.ktRatio = none)
    (hf : b.ktFinish = some φ) (hs : 0 < b.ktStart) (hφ : 0 < φ) (hL : 1 ≤ C18.loopsOf b)
    (h : b.build = .ok c) :
    b.ktStart * Gen.build_kt_ratio b ^ (Gen.build_loops b) = φ := by
  have h1 := C18.factor_finish b c φ hr hf hs hφ hL h
  have h2 := (C18.build_finish b c φ hr hf hs h).1
  have hmax : (C18.loopsOf b).max 1 = C18.loopsOf b := Nat.max_eq_left hL
  rw [build_kt_ratio_tie b c h, build_loops_tie b c h, h1.2, hmax, ← h2]
  exact h1.1

end PV.Proofs.Source
