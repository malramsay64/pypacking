/-
  Proofs/C02Measure.lean — C02, what the area formulas mean as measures (namespace of Proofs/C02.lean).

  The disc-union formula is inclusion–exclusion without the triple term: for any finite measure that
  gives the discs and their pairwise lenses the closed-form values (stated as hypotheses here; theorems
  for Lebesgue measure in C02Lens / C02LensGeneral), it equals the measure of the union exactly when the
  triple intersection is null, and otherwise UNDER-counts by exactly the triple intersection (known
  finding F10: trimers whose three discs share interior points).  Partial: `score ≤ 1` is derived from
  disjointness of the images (C01) as the measure-theoretic statement `covered_le_cell` with the tiling
  hypothesis explicit (a theorem in C02Tiling).
-/
import Proofs.C02
import Mathlib.MeasureTheory.Measure.Real

namespace PV.Proofs.C02
open MeasureTheory

/-- C02 for three discs, inclusion–exclusion: let `μ` be a finite measure and `D₁ D₂ D₃` measurable
sets (the three discs) whose measures and pairwise-intersection measures are the values the code uses.
Then the code's area is the measure of the union minus the measure of the triple intersection:
exact when no point lies in all three discs, an under-count (never an over-count) otherwise. -/
theorem trimer_area_inclusion_exclusion {Ω : Type} [MeasurableSpace Ω] (μ : Measure Ω)
    [IsFiniteMeasure μ] (D1 D2 D3 : Set Ω) (h1 : MeasurableSet D1) (h2 : MeasurableSet D2)
    (h3 : MeasurableSet D3) (a1 a2 a3 : Atom2 ℝ)
    (hd1 : (μ D1).toReal = Real.pi * a1.r ^ 2) (hd2 : (μ D2).toReal = Real.pi * a2.r ^ 2)
    (hd3 : (μ D3).toReal = Real.pi * a3.r ^ 2)
    (h12 : (μ (D1 ∩ D2)).toReal = circleOverlap a1 a2)
    (h13 : (μ (D1 ∩ D3)).toReal = circleOverlap a1 a3)
    (h23 : (μ (D2 ∩ D3)).toReal = circleOverlap a2 a3) :
    (Shape.mol [a1, a2, a3]).area = (μ (D1 ∪ D2 ∪ D3)).toReal - (μ (D1 ∩ D2 ∩ D3)).toReal := by
  have _ := h1  -- `h1` is not needed
  -- inclusion–exclusion for `(D1 ∪ D2) ∪ D3`, for `D1 ∪ D2`, and for `(D1 ∩ D3) ∪ (D2 ∩ D3)`
  have e1 := measureReal_union_add_inter (s := D1 ∪ D2) h3 (measure_ne_top μ _) (measure_ne_top μ _)
  have e2 := measureReal_union_add_inter (s := D1) h2 (measure_ne_top μ _) (measure_ne_top μ _)
  have e3 := measureReal_union_add_inter (s := D1 ∩ D3) (h2.inter h3) (measure_ne_top μ _)
    (measure_ne_top μ _)
  rw [← Set.union_inter_distrib_right, ← Set.inter_inter_distrib_right] at e3
  simp only [measureReal_def] at e1 e2 e3
  rw [mol_area_formula]
  simp only [pairs, List.map_cons, List.map_nil, List.sum_cons, List.sum_nil, List.cons_append,
    List.nil_append, List.append_nil]
  linear_combination h12 + h13 + h23 - hd1 - hd2 - hd3 + e3 - e1 - e2

/-- consequently the reported area never exceeds the true area of the union -/
theorem trimer_area_le_union {Ω : Type} [MeasurableSpace Ω] (μ : Measure Ω)
    [IsFiniteMeasure μ] (D1 D2 D3 : Set Ω) (h1 : MeasurableSet D1) (h2 : MeasurableSet D2)
    (h3 : MeasurableSet D3) (a1 a2 a3 : Atom2 ℝ)
    (hd1 : (μ D1).toReal = Real.pi * a1.r ^ 2) (hd2 : (μ D2).toReal = Real.pi * a2.r ^ 2)
    (hd3 : (μ D3).toReal = Real.pi * a3.r ^ 2)
    (h12 : (μ (D1 ∩ D2)).toReal = circleOverlap a1 a2)
    (h13 : (μ (D1 ∩ D3)).toReal = circleOverlap a1 a3)
    (h23 : (μ (D2 ∩ D3)).toReal = circleOverlap a2 a3) :
    (Shape.mol [a1, a2, a3]).area ≤ (μ (D1 ∪ D2 ∪ D3)).toReal := by
  rw [trimer_area_inclusion_exclusion μ D1 D2 D3 h1 h2 h3 a1 a2 a3 hd1 hd2 hd3 h12 h13 h23]
  have : 0 ≤ (μ (D1 ∩ D2 ∩ D3)).toReal := ENNReal.toReal_nonneg
  linarith

theorem total_area_le {Ω : Type} [MeasurableSpace Ω] (μ : Measure Ω) {N : ℕ}
    (copy : Fin N → Set Ω) (hm : ∀ i, MeasurableSet (copy i))
    (hdisj : Pairwise fun i j => Disjoint (copy i) (copy j)) {area : ℝ}
    (ha : ∀ i, (μ (copy i)).toReal = area) {M : ENNReal} (hM : M ≠ ⊤) (hle : μ (⋃ i, copy i) ≤ M) :
    (N : ℝ) * area ≤ M.toReal := by
  rw [measure_iUnion hdisj hm, tsum_fintype] at hle
  have hR := ENNReal.toReal_mono hM hle
  rw [ENNReal.toReal_sum (ENNReal.sum_ne_top.1 (ne_top_of_le_ne_top hM hle))] at hR
  simpa only [ha, Finset.sum_const, Finset.card_univ, Fintype.card_fin, nsmul_eq_mul] using hR

/-- C02, `score ≤ 1` in part: if the `N` copies in the cell, as measurable sets of measure
`area(shape)` each, are pairwise disjoint (C01) and all lie in a region of measure `area(cell)` (a
fundamental domain of the lattice, after translating pieces by lattice vectors — the tiling argument,
taken as the hypothesis `hsub`), then `N · area(shape) ≤ area(cell)`, i.e. the score is at most 1. -/
theorem covered_le_cell {Ω : Type} [MeasurableSpace Ω] (μ : Measure Ω) [IsFiniteMeasure μ]
    (N : Nat) (copy : Fin N → Set Ω) (cell : Set Ω) (hm : ∀ i, MeasurableSet (copy i))
    (hdisj : Pairwise fun i j => Disjoint (copy i) (copy j)) (hsub : ∀ i, copy i ⊆ cell)
    (area cellArea : ℝ) (ha : ∀ i, (μ (copy i)).toReal = area) (hc : (μ cell).toReal = cellArea)
    (hpos : 0 < cellArea) :
    (area * (N : ℝ)) / cellArea ≤ 1 := by
  rw [div_le_one hpos, ← hc, mul_comm]
  exact total_area_le μ copy hm hdisj ha (measure_ne_top μ cell)
    (measure_mono (Set.iUnion_subset hsub))

end PV.Proofs.C02
