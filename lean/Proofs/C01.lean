/-
  Proofs/C01.lean — C01: a scored hard packing has no overlapping shapes anywhere in the tiling.
  Carrier ℝ.

  `Crystal.checkIntersection` is the model of `PackedState::check_intersection`
  (src/state/packed.rs, after the `fix:` that derives the shell count from the cell heights), tied
  to the crate by the translation tie Proofs/TiePacked.lean and the bit-exact `state` request family.
  The theorem: if the check answers "no intersection" (i.e. the state reports a score), then NO two
  distinct lattice images of symmetry copies PROPERLY MEET — for every pair of copies `i, j` and
  every pair of lattice vectors, however far away in cell indices.  `ProperlyMeets`: discs — some
  pair of discs tests positive (exactly: the open discs share a point, C12.atom_iff); outlines — some
  edge of one and some edge of the other really share a point and are not near-parallel
  (C12.NearParallel, the tolerance of the repaired `Line2::intersects`).  With the tolerance the pair
  test itself may answer "yes" for a pair whose `tol`-extended edges touch just outside the
  centre-distance prefilter, so "every pair test is false" is not the theorem; what the test detects
  (C12.seg_complete / poly_complete_edges) is.
-/
import Mathlib.Tactic.Ring
import Mathlib.Tactic.Linarith
import Mathlib.Tactic.NormNum
import Mathlib.Tactic.LinearCombination
import Lemmas.C01Geom
import Proofs.C15

namespace PV.Proofs.C01
open PV.C01Geom

/-- declared constants, regenerated from src/state/packed.rs on every run:
shells = ceil(2·R / (min(a,b)·sin angle)); prefilter radius (2·R)²; in-cell loop over i<j,
image loop over `periodic_images(position, shells, false)` with `distance <= radius_sq` -/
theorem declared_shell_rule :
    Generated.packedShellFactor = .lit 2 1 ∧ Generated.packedPrefilterFactor = .lit 2 1 ∧
    Generated.stateUnrecognised = [] := by
  decide

/-- a fractional placement as `Site.positions` produces it: affine, orthogonal linear part (a table
operation times a rotation), position wrapped into `[-1/2, 1/2)²` (C15) -/
def Placed (p : Mat3 ℝ) : Prop :=
  C12.Affine p ∧ C12.Orthogonal p ∧ (-(1/2) ≤ p.m02 ∧ p.m02 < 1/2 ∧ -(1/2) ≤ p.m12 ∧ p.m12 < 1/2)

def CellOk (c : Cell ℝ) : Prop := 0 < c.length ∧ 0 < c.ratio ∧ 0 < Real.sin c.angle

/- Why the outline clause asks about END points: the enclosing radius of a `LineShape` is the maximum
   over the edges' START points only (`Shape.enclosingRadius`), so for an arbitrary list of edges an
   end point may lie outside the enclosing disc and `prefilter_sound` fails: `items = [⟨0,0,10,0⟩]`
   has R = 0; with `t` the identity and `u` the quarter turn placed at `(5,-1)` the two placed edges
   cross at `(5,0)` although `dist2 t u = 26 > 0 = (2R)²`.  Every closed outline, where each end is the
   start of some edge, satisfies the clause (`shapeOk_closed_outline`). -/
def ShapeOk : Shape ℝ → Prop
  | .line items => ∀ l ∈ items, dist (sc0 : ℝ) sc0 l.ex l.ey ≤ (Shape.line items).enclosingRadius
  | .mol items => ∀ a ∈ items, 0 ≤ a.r
  | .lj _ => False

theorem shapeOk_closed_outline (items : List (Line2 ℝ))
    (hclosed : ∀ l ∈ items, ∃ l' ∈ items, l'.sx = l.ex ∧ l'.sy = l.ey) :
    ShapeOk (.line items) := by
  intro l hl
  obtain ⟨l', hl', h1, h2⟩ := hclosed l hl
  rw [dist_from_origin, ← h1, ← h2]
  exact start_le_enclosingRadius hl'

/-- the outline clause is not vacuous -/
example : ShapeOk (.line [⟨1, 1, -1, 1⟩, ⟨-1, 1, -1, -1⟩, ⟨-1, -1, 1, -1⟩, ⟨1, -1, 1, 1⟩]) := by
  apply shapeOk_closed_outline
  simp

/-- the Cartesian image of fractional placement `p` under the lattice vector `n·A + m·B` -/
noncomputable def img (c : Cell ℝ) (p : Mat3 ℝ) (n m : Int) : Mat3 ℝ := c.toCartesianTranslate p n m

noncomputable def dist2 (t u : Mat3 ℝ) : ℝ :=
  (t.position.x - u.position.x) ^ 2 + (t.position.y - u.position.y) ^ 2

/-- finite: decided in the kernel at ℚ on the tables regenerated from src/wallpaper.rs -/
theorem tables_orthogonal :
    Generated.tables.all (fun e => e.ops.all fun str =>
      match fromOperations (α := Rat) str with
      | .ok g => g.m20 == 0 && g.m21 == 0 && g.m22 == 0 &&
                 g.m00 * g.m00 + g.m10 * g.m10 == 1 && g.m01 * g.m01 + g.m11 * g.m11 == 1 &&
                 g.m00 * g.m01 + g.m10 * g.m11 == 0
      | .error _ => false) = true := by
  decide +kernel

/-- `hops` holds of every table operation (`C08Init.table_ops_ok`) -/
theorem relPositions_placed (s : Crystal ℝ)
    (hops : ∀ site ∈ s.sites, ∀ g ∈ site.ops, C15.OpLike g ∧ C12.Orthogonal g) :
    ∀ p ∈ s.relPositions, Placed p := by
  intro p hp
  obtain ⟨site, hsite, hp⟩ := List.mem_flatMap.mp hp
  rw [C15.positions_eq, List.mem_map] at hp
  obtain ⟨g, hg, rfl⟩ := hp
  obtain ⟨hop, ho⟩ := hops site hsite g hg
  rw [Site.transform, C15.placed g hop]
  exact ⟨⟨rfl, rfl, hop.2.2⟩, C12.orthogonal_mul_rot ho _ _ _ _, (C15.wrap_range _).1,
    (C15.wrap_range _).2, C15.wrap_range _⟩

def ProperlyMeets : Shape ℝ → Shape ℝ → Prop
  | .line xs, .line ys => ∃ a ∈ xs, ∃ b ∈ ys, ¬ C12.NearParallel a b ∧ C12.SharePoint a b
  | .mol xs, .mol ys => ∃ a ∈ xs, ∃ b ∈ ys, a.intersects b = true
  | _, _ => False

theorem properlyMeets_detected (s o : Shape ℝ) (h : ProperlyMeets s o) : s.intersects o = true := by
  cases s <;> cases o <;> simp only [ProperlyMeets] at h
  · exact C12.poly_complete_edges _ _ h
  · exact (C12.mol_iff _ _).mpr h

theorem not_properlyMeets {s o : Shape ℝ} (h : s.intersects o = false) : ¬ ProperlyMeets s o :=
  fun hm => Bool.false_ne_true (h ▸ properlyMeets_detected s o hm)

theorem ProperlyMeets.symm {s o : Shape ℝ} (h : ProperlyMeets s o) : ProperlyMeets o s := by
  cases s <;> cases o <;> simp only [ProperlyMeets] at h ⊢
  · obtain ⟨a, ha, b, hb, h1, h2⟩ := h
    exact ⟨b, hb, a, ha, by rwa [C12.nearParallel_comm], C12.sharePoint_symm h2⟩
  · obtain ⟨a, ha, b, hb, h⟩ := h
    exact ⟨b, hb, a, ha, by rwa [C12.atom_symm]⟩

theorem properlyMeets_shiftM (sh : Shape ℝ) (t u : Mat3 ℝ) (ht : C12.Affine t) (hu : C12.Affine u)
    (wx wy : ℝ) :
    ProperlyMeets (sh.transform (shiftM t wx wy)) (sh.transform (shiftM u wx wy)) ↔
      ProperlyMeets (sh.transform t) (sh.transform u) := by
  cases sh with
  | line items =>
    simp only [Shape.transform, ProperlyMeets, List.mem_map, exists_exists_and_eq_and,
      line_transform_shift _ _ ht, line_transform_shift _ _ hu, nearParallel_shift,
      sharePoint_shift]
  | mol items =>
    simp only [Shape.transform, ProperlyMeets, List.mem_map, exists_exists_and_eq_and,
      atom_transform_shift _ _ ht, atom_transform_shift _ _ hu, atom_intersects_shift]
  | lj items => simp only [Shape.transform, ProperlyMeets]

theorem Placed.img {p : Mat3 ℝ} (hp : Placed p) (c : Cell ℝ) (n m : Int) :
    C12.Affine (img c p n m) ∧ C12.Orthogonal (img c p n m) :=
  ⟨hp.1, hp.2.1⟩

theorem dist2_eq {t u : Mat3 ℝ} (ht : C12.Affine t) (hu : C12.Affine u) :
    dist2 t u = (t.m02 - u.m02) ^ 2 + (t.m12 - u.m12) ^ 2 := by
  rw [dist2, C14.position_affine t ht, C14.position_affine u hu]

theorem dist2_img (c : Cell ℝ) {p q : Mat3 ℝ} (hp : C12.Affine p) (hq : C12.Affine q) (n m : Int) :
    dist2 (img c p 0 0) (img c q n m) =
      (c.toCartesian (p.m02 - q.m02 - (n : ℝ)) (p.m12 - q.m12 - (m : ℝ))).1 ^ 2 +
      (c.toCartesian (p.m02 - q.m02 - (n : ℝ)) (p.m12 - q.m12 - (m : ℝ))).2 ^ 2 := by
  rw [img, img, dist2_eq (translate_affine c p hp 0 0) (translate_affine c q hq n m),
    C14.translate_eq c p hp, C14.translate_eq c q hq]
  simp only [Cell.toCartesian, Int.cast_zero, add_zero, sin_real, cos_real]
  ring

/-- every component of a placed shape stays within the enclosing radius of the placement's
position -/
theorem prefilter_sound (sh : Shape ℝ) (hs : ShapeOk sh) (t u : Mat3 ℝ)
    (ht : C12.Affine t ∧ C12.Orthogonal t) (hu : C12.Affine u ∧ C12.Orthogonal u)
    (hfar : (2 * sh.enclosingRadius) ^ 2 < dist2 t u) :
    ¬ ProperlyMeets (sh.transform t) (sh.transform u) := by
  rw [dist2_eq ht.1 hu.1] at hfar
  cases sh with
  | line items =>
    rintro ⟨a, ha, b, hb, _, h⟩
    exact line_prefilter items hs t u ht hu hfar ⟨a, ha, b, hb, h⟩
  | mol items => exact not_properlyMeets (mol_prefilter items hs t u ht hu hfar)
  | lj items => exact hs.elim

/-- a lattice combination `u·A + v·B` is at least `|u|·a·sin t` and at least `|v|·b·sin t` long -/
theorem lattice_vector_long (c : Cell ℝ) (u v : ℝ) :
    let x := (c.toCartesian u v).1
    let y := (c.toCartesian u v).2
    u ^ 2 * (c.a * Real.sin c.angle) ^ 2 ≤ x ^ 2 + y ^ 2 ∧
    v ^ 2 * (c.b * Real.sin c.angle) ^ 2 ≤ x ^ 2 + y ^ 2 := by
  simp only [Cell.toCartesian, sin_real, cos_real]
  constructor
  · -- the difference is the square of the component along `B`
    rw [← sub_nonneg, show (u * c.a + v * c.b * Real.cos c.angle) ^ 2 +
        (v * c.b * Real.sin c.angle) ^ 2 - u ^ 2 * (c.a * Real.sin c.angle) ^ 2 =
          (u * c.a * Real.cos c.angle + v * c.b) ^ 2 by
      linear_combination (v ^ 2 * c.b ^ 2 - u ^ 2 * c.a ^ 2) * Real.sin_sq_add_cos_sq c.angle]
    exact sq_nonneg _
  · rw [← mul_pow, ← mul_assoc]
    exact le_add_of_nonneg_left (sq_nonneg _)

/-- `hR` is not automatic: the enclosing radius of a shape without components is the start value
`f64::MIN` of the maximum, `-2^1024` at ℝ -/
theorem shells_rule_suffices (s : Crystal ℝ) (hc : CellOk s.cell) (hR : 0 ≤ s.shape.enclosingRadius) :
    2 * s.shape.enclosingRadius ≤ (s.shells : ℝ) * (min s.cell.a s.cell.b * Real.sin s.cell.angle) ∧
    0 ≤ s.shells := by
  obtain ⟨hl, hr, hsin⟩ := hc
  have hh : 0 < min s.cell.a s.cell.b * Real.sin s.cell.angle :=
    mul_pos (lt_min hl (mul_pos hl hr)) hsin
  rw [shells_eq]
  exact ⟨(div_le_iff₀ hh).mp (Int.le_ceil _), Int.ceil_nonneg (div_nonneg (by linarith) hh.le)⟩

theorem outside_box_far (c : Cell ℝ) (hc : CellOk c) (D : ℝ) (hD : 0 ≤ D) (K : Int) (hK0 : 0 ≤ K)
    (hK : D ≤ (K : ℝ) * (min c.a c.b * Real.sin c.angle))
    (p q : Mat3 ℝ) (hp : Placed p) (hq : Placed q) (n m : Int) (hout : K < |n| ∨ K < |m|) :
    D ^ 2 < dist2 (img c p 0 0) (img c q n m) := by
  obtain ⟨hpa, _, hp1, hp2, hp3, hp4⟩ := hp
  obtain ⟨hqa, _, hq1, hq2, hq3, hq4⟩ := hq
  obtain ⟨L1, L2⟩ := lattice_vector_long c (p.m02 - q.m02 - (n : ℝ)) (p.m12 - q.m12 - (m : ℝ))
  obtain ⟨hl, hr, hsin⟩ := hc
  have hK0' : (0 : ℝ) ≤ (K : ℝ) := by exact_mod_cast hK0
  rw [dist2_img c hpa hqa]
  -- an integer beyond `K` is beyond `K` by at least the width `2 · (1/2)` of the canonical cell
  have hint : ∀ z : Int, K < |z| → (K : ℝ) + 2 * (1 / 2) ≤ |(z : ℝ)| := by
    intro z hz
    rw [mul_one_div_cancel two_ne_zero]
    exact_mod_cast Int.add_one_le_iff.mpr hz
  rcases hout with h | h
  · exact far_aux _ _ _ (c.a * Real.sin c.angle) _ _ hD hK0' hK (mul_pos hl hsin)
      (mul_le_mul_of_nonneg_right (min_le_left _ _) hsin.le)
      (abs_gt_of_outside hp1 hp2 hq1 hq2 (hint n h)) L1
  · exact far_aux _ _ _ (c.b * Real.sin c.angle) _ _ hD hK0' hK (mul_pos (mul_pos hl hr) hsin)
      (mul_le_mul_of_nonneg_right (min_le_right _ _) hsin.le)
      (abs_gt_of_outside hp3 hp4 hq3 hq4 (hint m h)) L2

theorem far_images_clear (s : Crystal ℝ) (hc : CellOk s.cell) (hR : 0 ≤ s.shape.enclosingRadius)
    (p q : Mat3 ℝ) (hp : Placed p) (hq : Placed q) (n m : Int)
    (hout : s.shells < |n| ∨ s.shells < |m|) :
    (2 * s.shape.enclosingRadius) ^ 2 < dist2 (img s.cell p 0 0) (img s.cell q n m) := by
  obtain ⟨hK, hK0⟩ := shells_rule_suffices s hc hR
  exact outside_box_far s.cell hc _ (by linarith) s.shells hK0 hK p q hp hq n m hout

theorem properlyMeets_latticeShift (sh : Shape ℝ) (c : Cell ℝ) (p q : Mat3 ℝ) (hp : C12.Affine p)
    (hq : C12.Affine q) (n m n' m' : Int) :
    ProperlyMeets (sh.transform (img c p n m)) (sh.transform (img c q n' m')) ↔
      ProperlyMeets (sh.transform (img c p 0 0)) (sh.transform (img c q (n' - n) (m' - m))) := by
  unfold img
  have e1 := translate_add c p hp 0 0 n m
  have e2 := translate_add c q hq (n' - n) (m' - m) n m
  rw [zero_add, zero_add] at e1
  rw [sub_add_cancel, sub_add_cancel] at e2
  rw [e1, e2, properlyMeets_shiftM _ _ _ (translate_affine c p hp 0 0)
    (translate_affine c q hq (n' - n) (m' - m))]

theorem intersects_symm (sh o : Shape ℝ) : sh.intersects o = o.intersects sh := by
  -- unlike kinds never intersect, and neither do two Lennard-Jones shapes
  cases sh <;> cases o <;> try rfl
  · exact C12.poly_symm _ _
  · exact C12.mol_symm _ _

/-- the two conjuncts are the two loops of `check_intersection`: the in-cell loop over `i < j`, and
the image loop behind the centre-distance prefilter -/
theorem check_false_iff (s : Crystal ℝ) :
    s.checkIntersection = false ↔
      (s.cartPositions.map s.shape.transform).Pairwise (fun a b => a.intersects b = false) ∧
      ∀ t1 ∈ s.cartPositions, ∀ pos ∈ s.relPositions,
        ∀ t2 ∈ s.cell.periodicImages pos s.shells false,
          normSq (t1.position.x - t2.position.x) (t1.position.y - t2.position.y) ≤
              powi (s.shape.enclosingRadius * Generated.packedPrefilterFactor.eval noEnv) 2 →
            (s.shape.transform t1).intersects (s.shape.transform t2) = false := by
  rw [← forall_orderedPairs]
  unfold Crystal.checkIntersection
  simp only [Bool.if_true_left, Bool.or_eq_false_iff, List.any_eq_false, Bool.not_eq_true,
    Bool.decide_eq_true, ite_eq_right_iff]

theorem cartPositions_eq (s : Crystal ℝ) (haff : ∀ p ∈ s.relPositions, C12.Affine p) :
    s.cartPositions = s.relPositions.map fun p => img s.cell p 0 0 :=
  List.map_congr_left fun p hp => C14.isometry_eq_translate s.cell p (haff p hp)

theorem check_false_iff_img (s : Crystal ℝ) (haff : ∀ p ∈ s.relPositions, C12.Affine p) :
    s.checkIntersection = false ↔
      s.relPositions.Pairwise (fun p q => (s.shape.transform (img s.cell p 0 0)).intersects
        (s.shape.transform (img s.cell q 0 0)) = false) ∧
      ∀ p ∈ s.relPositions, ∀ q ∈ s.relPositions, ∀ n m : Int, |n| ≤ s.shells → |m| ≤ s.shells →
        ¬(n = 0 ∧ m = 0) →
        dist2 (img s.cell p 0 0) (img s.cell q n m) ≤ (2 * s.shape.enclosingRadius) ^ 2 →
        (s.shape.transform (img s.cell p 0 0)).intersects (s.shape.transform (img s.cell q n m)) =
          false := by
  rw [check_false_iff, cartPositions_eq s haff, List.map_map, List.pairwise_map]
  simp only [Cell.periodicImages, List.forall_mem_map, Prod.forall, C14.mem_imageIndices,
    normSq_real, powi_eq_pow _ 2 (by norm_num), prefilterFactor_eval, Function.comp, forall_const,
    and_imp, dist2, img, mul_comm _ (2 : ℝ)]

/-- **C01**: whenever a hard-shape state reports a score (`checkIntersection = false`), no two
distinct images of symmetry copies properly meet, anywhere in the tiling: for all copies `i, j`
and all lattice vectors `(n,m)`, `(n',m')` with `(i,n,m) ≠ (j,n',m')`.  (Why `hR` is a hypothesis:
`shells_rule_suffices`.) -/
theorem C01_no_proper_overlap (s : Crystal ℝ) (hc : CellOk s.cell) (hs : ShapeOk s.shape)
    (hR : 0 ≤ s.shape.enclosingRadius)
    (hrel : ∀ p ∈ s.relPositions, Placed p)
    (hscore : s.checkIntersection = false)
    (i j : Nat) (hi : i < s.relPositions.length) (hj : j < s.relPositions.length)
    (n m n' m' : Int) (hne : (i, n, m) ≠ (j, n', m')) :
    ¬ ProperlyMeets (s.shape.transform (img s.cell (s.relPositions[i]) n m))
      (s.shape.transform (img s.cell (s.relPositions[j]) n' m')) := by
  have hPi := hrel _ (List.getElem_mem hi)
  have hPj := hrel _ (List.getElem_mem hj)
  rw [properlyMeets_latticeShift s.shape s.cell _ _ hPi.1 hPj.1 n m n' m']
  obtain ⟨hA, hB⟩ := (check_false_iff_img s fun p hp => (hrel p hp).1).mp hscore
  by_cases hzero : n' - n = 0 ∧ m' - m = 0
  · -- two copies of the home cell: the in-cell loop tested them
    rw [hzero.1, hzero.2]
    have hij : i ≠ j := fun h => hne (by rw [h, show n = n' by omega, show m = m' by omega])
    rcases Nat.lt_or_gt_of_ne hij with h | h
    · exact not_properlyMeets (List.pairwise_iff_getElem.mp hA i j hi hj h)
    · exact fun hm => not_properlyMeets (List.pairwise_iff_getElem.mp hA j i hj hi h) hm.symm
  · by_cases hfar : (2 * s.shape.enclosingRadius) ^ 2 <
        dist2 (img s.cell (s.relPositions[i]) 0 0) (img s.cell (s.relPositions[j]) (n' - n) (m' - m))
    · exact prefilter_sound _ hs _ _ (hPi.img _ 0 0) (hPj.img _ _ _) hfar
    · -- not far: the image lies in the searched box and passes the prefilter, so the image loop
      -- tested it
      have hin : |n' - n| ≤ s.shells ∧ |m' - m| ≤ s.shells := by
        by_contra hcon
        rw [not_and_or, not_le, not_le] at hcon
        exact hfar (far_images_clear s hc hR _ _ hPi hPj _ _ hcon)
      exact not_properlyMeets (hB _ (List.getElem_mem hi) _ (List.getElem_mem hj) _ _ hin.1 hin.2
        hzero (not_lt.mp hfar))

theorem score_some_iff (s : Crystal ℝ) : (∃ v, s.scoreHard = some v) ↔ s.checkIntersection = false := by
  unfold Crystal.scoreHard
  cases h : s.checkIntersection <;> simp

/-- corollary for disc shapes (circle, trimers): in a scored state the OPEN disc-unions of any two
distinct images are disjoint — no point of the plane lies in the interior of two copies -/
theorem C01_discs (s : Crystal ℝ) (items : List (Atom2 ℝ)) (hshape : s.shape = .mol items)
    (hpos : ∀ a ∈ items, 0 < a.r) (hc : CellOk s.cell) (hR : 0 ≤ s.shape.enclosingRadius)
    (hrel : ∀ p ∈ s.relPositions, Placed p) (hscore : s.checkIntersection = false)
    (i j : Nat) (hi : i < s.relPositions.length) (hj : j < s.relPositions.length)
    (n m n' m' : Int) (hne : (i, n, m) ≠ (j, n', m')) :
    ¬ ∃ (a b : Atom2 ℝ) (px py : ℝ),
        a ∈ items.map (·.transform (img s.cell (s.relPositions[i]) n m)) ∧
        b ∈ items.map (·.transform (img s.cell (s.relPositions[j]) n' m')) ∧
        (px - a.x) ^ 2 + (py - a.y) ^ 2 < a.r ^ 2 ∧ (px - b.x) ^ 2 + (py - b.y) ^ 2 < b.r ^ 2 := by
  rintro ⟨a, b, px, py, ha, hb, h1, h2⟩
  have hs : ShapeOk s.shape := by
    rw [hshape]
    exact fun a ha => le_of_lt (hpos a ha)
  have hno := C01_no_proper_overlap s hc hs hR hrel hscore i j hi hj n m n' m' hne
  rw [hshape] at hno
  simp only [Shape.transform, ProperlyMeets] at hno
  apply hno
  refine ⟨a, ha, b, hb, ?_⟩
  have hra : 0 < a.r := by
    obtain ⟨a0, ha0, rfl⟩ := List.mem_map.mp ha
    exact hpos a0 ha0
  have hrb : 0 < b.r := by
    obtain ⟨b0, hb0, rfl⟩ := List.mem_map.mp hb
    exact hpos b0 hb0
  rw [C12.atom_iff a b hra hrb]
  exact ⟨px, py, h1, h2⟩

end PV.Proofs.C01
