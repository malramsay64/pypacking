/-
  Proofs/C19.lean — C19: no Monte-Carlo move is larger than the configured maximum step.  Carrier ℝ.
-/
import Lemmas.C1908Run
import Mathlib.Tactic.Linarith

namespace PV.Proofs.C19
open PV

variable {G : Type}

/-- step draws come from `gen_range(-0.5, 0.5)` -/
def DrawHalf (next : Nat → G → (Nat × ℝ × ℝ) × G) : Prop :=
  ∀ n g, -(1/2) ≤ (next n g).1.2.1 ∧ (next n g).1.2.1 < 1/2

def HandlesOk (heap : Array ℝ) (hs : Array (Handle ℝ)) : Prop :=
  (∀ i (hi : i < hs.size), (hs[i]).addr < heap.size ∧ (hs[i]).min ≤ (hs[i]).max ∧
      (hs[i]).min ≤ hget heap (hs[i]).addr ∧ hget heap (hs[i]).addr ≤ (hs[i]).max) ∧
  (∀ i j (hi : i < hs.size) (hj : j < hs.size), i ≠ j → (hs[i]).addr ≠ (hs[j]).addr)

theorem sample_bound (h : Handle ℝ) (heap : Array ℝ) (step draw : ℝ) (hstep : 0 ≤ step)
    (hr : h.min ≤ h.max) (hd : -(1/2) ≤ draw ∧ draw < 1/2) :
    |h.sample heap step draw - hget heap h.addr| ≤ step * (h.max - h.min) / 2 := by
  have hw : 0 ≤ step * (h.max - h.min) := mul_nonneg hstep (sub_nonneg.mpr hr)
  have he : h.sample heap step draw - hget heap h.addr = step * (h.max - h.min) * draw :=
    add_sub_cancel_left _ _
  rw [he, abs_mul, abs_of_nonneg hw, ← mul_one_div]
  exact mul_le_mul_of_nonneg_left (abs_le.2 ⟨hd.1, hd.2.le⟩) hw

theorem clamp_contracts (lo hi v x : ℝ) (hlo : lo ≤ v) (hhi : v ≤ hi) :
    |clamp lo hi x - v| ≤ |x - v| := by
  unfold clamp
  split_ifs with h1 h2
  · rw [abs_sub_comm lo v, abs_sub_comm x v, abs_of_nonneg (by linarith), abs_of_nonneg (by linarith)]
    linarith
  · rw [abs_of_nonneg (by linarith), abs_of_nonneg (by linarith)]
    linarith
  · exact le_refl _

theorem step_ratio_le_one (c : Cfg ℝ) (hin : 1 ≤ c.inner) (scoreStart : ℝ) (conv : Nat) (st : OptSt ℝ)
    (h0 : 0 < st.ratio) (h1 : st.ratio ≤ 1) :
    0 < (afterLoop c scoreStart conv st).1.ratio ∧ (afterLoop c scoreStart conv st).1.ratio ≤ 1 := by
  rw [afterLoop_eq]
  exact C1908.cool_ratio_mem c hin st _ ⟨h0, h1⟩

/-- **C19**: in every inner loop of every run, every proposal changes at most one parameter, by at
most `max_step_size` times half that parameter's range — whatever the rejection history. -/
theorem C19_bound (score : Nat → Array ℝ → Option ℝ) (c : Cfg ℝ) (hmax : 0 ≤ c.maxStep)
    (next : Nat → G → (Nat × ℝ × ℝ) × G) (hdraw : DrawHalf next) (g : G) (heap : Array ℝ)
    (hs : Array (Handle ℝ)) (hok : HandlesOk heap hs) (r : Run ℝ)
    (h : optimise score c next g heap hs = .ok r) :
    ∀ ev ∈ r.events,
      0 ≤ ev.stepSize ∧ ev.stepSize ≤ c.maxStep ∧
      ∃ hd, hs[ev.idx]? = some hd ∧
        ev.before.size = ev.proposal.size ∧
        (∀ j, j ≠ hd.addr → ev.before[j]? = ev.proposal[j]?) ∧
        |hget ev.proposal hd.addr - hget ev.before hd.addr| ≤ c.maxStep * (hd.max - hd.min) / 2 := by
  intro ev hmem
  obtain ⟨loop, st, g, st', hI, s⟩ := (C1908.optimise_inv hok h).2 ev hmem
  obtain ⟨hi, hprop, -⟩ := hI.proposal hok s
  obtain ⟨hlo, hhi⟩ := s.before ▸ hI.heap.range ev.idx hi
  have haddr : hs[ev.idx].addr < ev.before.size := s.before ▸ hI.heap.size ▸ (hok.1 ev.idx hi).1
  have hle := (hok.1 ev.idx hi).2.1
  have hs0 : 0 ≤ ev.stepSize := s.stepSize ▸ mul_nonneg hmax hI.ratio.1.le
  have hs1 : ev.stepSize ≤ c.maxStep := s.stepSize ▸ mul_le_of_le_one_right hmax hI.ratio.2
  refine ⟨hs0, hs1, hs[ev.idx], Array.getElem?_eq_getElem hi, ?_, ?_, ?_⟩
  · rw [hprop, Array.size_setIfInBounds]
  · intro j hj
    rw [hprop, Array.getElem?_setIfInBounds_ne (Ne.symm hj)]
  · rw [hprop, hget_setIfInBounds_self _ _ haddr]
    have h2 := sample_bound hs[ev.idx] ev.before ev.stepSize _ hs0 hle (hdraw st.hs.size g)
    have h1 := clamp_contracts hs[ev.idx].min hs[ev.idx].max _
      (hs[ev.idx].sample ev.before ev.stepSize (next st.hs.size g).1.2.1) hlo hhi
    have h3 : ev.stepSize * (hs[ev.idx].max - hs[ev.idx].min) / 2
        ≤ c.maxStep * (hs[ev.idx].max - hs[ev.idx].min) / 2 :=
      div_le_div_of_nonneg_right (mul_le_mul_of_nonneg_right hs1 (sub_nonneg.mpr hle)) two_pos.le
    exact h1.trans (h2.trans h3)

end PV.Proofs.C19
