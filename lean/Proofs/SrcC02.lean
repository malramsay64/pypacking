/-
  Proofs/SrcC02.lean — C02 stated about `PackedState::{score, total_shapes, check_intersection}` and
  `Cell2::area` as translated (Generated/FnsPacked.lean, FnsCell.lean), from Proofs/C02 by TiePacked, TieCell.
-/
import Proofs.C02
import Proofs.TiePacked

namespace PV.Proofs.Source
open PV PV.Proofs.Tie

/-- **C02 about the source**: a reported score is `area · N / cell area`, all four as translated -/
theorem C02_source (s : Crystal ℝ) (v : ℝ) (h : Gen.packed_score s = some v) :
    v = (s.shape.area * (Gen.packed_total_shapes s : ℝ)) / Gen.cell_area s.cell ∧
      Gen.packed_check_intersection s = false := by
  rw [packed_score_tie] at h
  rw [packed_total_shapes_tie, cell_area_tie, packed_check_intersection_tie]
  exact C02.score_formula s v h

end PV.Proofs.Source
