/-
  Proofs/C12Placed.lean — two placed copies of ONE regular polygon (C12, polygons).  Carrier ℝ.

  `convex_overlap_detected_oriented` (Proofs/C12Orient.lean) has the hypotheses "neither outline has
  all its vertices strictly inside the other".  For two copies of one regular polygon,
  placed by rigid motions or reflections, they are theorems: a point strictly inside a placed copy is
  closer than the circumradius 1 to the position of the placement, and — the vertices summing to
  zero — every direction has a vertex in its closed half-plane, so some vertex of one copy is at least
  1 away from the position of the other.
-/
import Proofs.C12Polygon
import Mathlib.Analysis.SpecialFunctions.Trigonometric.Basic
import Mathlib.Algebra.BigOperators.Group.Finset.Basic
import Mathlib.Algebra.Order.BigOperators.Group.Finset
import Mathlib.Data.Finset.Max
import Mathlib.Data.Nat.Periodic
import Mathlib.Tactic.Ring
import Mathlib.Tactic.NormNum
import Mathlib.Tactic.LinearCombination
import Mathlib.Tactic.Push
import Mathlib.Tactic.GCongr

namespace PV.Proofs.C12Placed
open PV.Proofs.C12 PV.Proofs.C12Convex PV.Proofs.C12Orient PV.Proofs.C12Polygon
open PV.Proofs.C02 (step)

theorem side_affine_origin (e : Line2 ℝ) (l px py : ℝ) :
    side e (l * px) (l * py) = l * side e px py + (1 - l) * side e 0 0 := by
  unfold side
  ring

/-- `A` and `B` are the components of `p` along a unit vector `u` and across it,
`s = sin h`, `c = cos h`.  If `A < cos h` and the components of `p` along `u` turned by `±2h` do not
exceed `A`, then `|B|·c ≤ A·s`, hence `|p|²c² ≤ A² < c²` -/
theorem disc_core (A B s c : ℝ) (hsc : s ^ 2 + c ^ 2 = 1) (hs : 0 < s) (hA : A < c)
    (h1 : A * (c ^ 2 - s ^ 2) + B * (2 * s * c) ≤ A)
    (h2 : A * (c ^ 2 - s ^ 2) - B * (2 * s * c) ≤ A) : A ^ 2 + B ^ 2 < 1 := by
  have hb : |B * c| ≤ A * s := by
    refine abs_le'.mpr ⟨le_of_mul_le_mul_left ?_ (mul_pos two_pos hs),
      le_of_mul_le_mul_left ?_ (mul_pos two_pos hs)⟩
    · linear_combination h1 - A * hsc
    · linear_combination h2 - A * hsc
  have hA0 : 0 ≤ A := nonneg_of_mul_nonneg_left ((abs_nonneg _).trans hb) hs
  have hsq : (B * c) ^ 2 ≤ (A * s) ^ 2 := sq_le_sq' (abs_le.1 hb).1 (abs_le.1 hb).2
  have hAlt : A ^ 2 < c ^ 2 := pow_lt_pow_left₀ hA hA0 two_ne_zero
  refine lt_of_mul_lt_mul_right ?_ (sq_nonneg c)
  calc (A ^ 2 + B ^ 2) * c ^ 2 = A ^ 2 * c ^ 2 + (B * c) ^ 2 := by ring
    _ ≤ A ^ 2 * c ^ 2 + (A * s) ^ 2 := by gcongr
    _ = A ^ 2 := by linear_combination A ^ 2 * hsc
    _ < 1 * c ^ 2 := by rwa [one_mul]

theorem exists_max_periodic {n : ℕ} (hn : 0 < n) (f : ℕ → ℝ) (hf : Function.Periodic f n) :
    ∃ i, 0 < i ∧ ∀ k, f k ≤ f i := by
  obtain ⟨i, -, hmax⟩ := Finset.exists_max_image (Finset.range n) f ⟨0, Finset.mem_range.mpr hn⟩
  refine ⟨i + n, by omega, fun k => ?_⟩
  rw [hf i, ← hf.map_mod_nat k]
  exact hmax _ (Finset.mem_range.mpr (Nat.mod_lt k hn))

/-- a regular polygon lies in its circumscribed disc: at the edge whose outward normal has the largest
component of `p`, that component is at least `|p|·cos(δ/2)` -/
theorem polygon_interior_in_disc (n : ℕ) (hn : 3 ≤ n) (px py : ℝ)
    (hin : ∀ e ∈ ngon n, side e px py < 0) : px ^ 2 + py ^ 2 < 1 := by
  have hsh := sin_half_step_pos n hn
  -- the component of `p` along the normal of edge `k`, continued periodically to all `k : ℕ`
  set f : ℕ → ℝ := fun k =>
    px * Real.sin (((k : ℝ) + 1 / 2) * step n) + py * Real.cos (((k : ℝ) + 1 / 2) * step n) with hf
  have hper : Function.Periodic f n := by
    intro k
    simp only [hf, Nat.cast_add, add_right_comm _ (n : ℝ), add_mul_step n hn, Real.sin_add_two_pi,
      Real.cos_add_two_pi]
  -- strictly inside: every one of them is below `cos (δ/2)`
  have hlt : ∀ k, f k < Real.cos (step n / 2) := by
    intro k
    have hs := hin _ (mem_ngon.mpr ⟨k % n, Nat.mod_lt k (by omega), rfl⟩)
    rw [side_pedge] at hs
    rw [← hper.map_mod_nat k]
    exact sub_neg.mp (neg_of_mul_neg_right hs (mul_pos two_pos hsh).le)
  -- an edge with the largest component, and its two neighbours: their normals are the normal `u` of
  -- that edge turned by `±δ`
  obtain ⟨i, hi, hmax⟩ := exists_max_periodic (by omega : 0 < n) f hper
  have hup := hmax (i + 1)
  have hdn := hmax (i - 1)
  have eup : (((i + 1 : ℕ) : ℝ) + 1 / 2) * step n =
      ((i : ℝ) + 1 / 2) * step n + 2 * (step n / 2) := by
    push_cast
    ring
  have edn : (((i - 1 : ℕ) : ℝ) + 1 / 2) * step n =
      ((i : ℝ) + 1 / 2) * step n - 2 * (step n / 2) := by
    rw [Nat.cast_pred hi]
    ring
  simp only [hf] at hup hdn
  rw [eup, Real.sin_add, Real.cos_add, Real.cos_two_mul', Real.sin_two_mul] at hup
  rw [edn, Real.sin_sub, Real.cos_sub, Real.cos_two_mul', Real.sin_two_mul] at hdn
  -- `|p|²` is the square of the component along `u` plus the square of the component across
  have hnorm : px ^ 2 + py ^ 2 = f i ^ 2 + (px * Real.cos (((i : ℝ) + 1 / 2) * step n) -
      py * Real.sin (((i : ℝ) + 1 / 2) * step n)) ^ 2 := by
    linear_combination (-(px ^ 2 + py ^ 2)) * Real.sin_sq_add_cos_sq (((i : ℝ) + 1 / 2) * step n)
  rw [hnorm]
  refine disc_core _ _ _ _ (Real.sin_sq_add_cos_sq (step n / 2)) hsh (hlt i) ?_ ?_
  · simp only [hf]
    linear_combination hup
  · simp only [hf]
    linear_combination hdn

/-- the vertices sum to zero, tested against an arbitrary vector `w`: multiplied by
`2 sin (δ/2)` the sum telescopes -/
theorem sum_vertices (n : ℕ) (hn : 3 ≤ n) (wx wy : ℝ) :
    ∑ k ∈ Finset.range n,
      (wx * Real.sin ((k : ℝ) * step n) + wy * Real.cos ((k : ℝ) * step n)) = 0 := by
  set F : ℕ → ℝ := fun k =>
    wy * Real.sin (((k : ℝ) - 1 / 2) * step n) - wx * Real.cos (((k : ℝ) - 1 / 2) * step n) with hF
  have htel : ∀ k : ℕ, F (k + 1) - F k = 2 * Real.sin (step n / 2) *
      (wx * Real.sin ((k : ℝ) * step n) + wy * Real.cos ((k : ℝ) * step n)) := by
    intro k
    have e1 : (((k + 1 : ℕ) : ℝ) - 1 / 2) * step n = (k : ℝ) * step n + step n / 2 := by
      push_cast
      ring
    have e2 : ((k : ℝ) - 1 / 2) * step n = (k : ℝ) * step n - step n / 2 := by ring
    simp only [hF, e1, e2, Real.sin_add, Real.sin_sub, Real.cos_add, Real.cos_sub]
    ring
  have hclose : F n = F 0 := by
    simp only [hF, Nat.cast_zero, sub_eq_neg_add, add_mul_step n hn, Real.sin_add_two_pi,
      Real.cos_add_two_pi, add_zero]
  have h := Finset.sum_range_sub F n
  simp only [htel, ← Finset.mul_sum, hclose, sub_self] at h
  exact (mul_eq_zero.mp h).resolve_left (mul_pos two_pos (sin_half_step_pos n hn)).ne'

theorem exists_vertex_nonneg (n : ℕ) (hn : 3 ≤ n) (wx wy : ℝ) :
    ∃ k, k < n ∧ 0 ≤ wx * Real.sin ((k : ℝ) * step n) + wy * Real.cos ((k : ℝ) * step n) := by
  by_contra hcon
  push Not at hcon
  have hlt := Finset.sum_neg (s := Finset.range n)
    (fun k hk => hcon k (Finset.mem_range.mp hk)) ⟨0, Finset.mem_range.mpr (by omega)⟩
  rw [sum_vertices n hn] at hlt
  exact lt_irrefl _ hlt

theorem apply_surjective_of_det (t : Mat3 ℝ) (ha : Affine t)
    (hd : t.m00 * t.m11 - t.m01 * t.m10 ≠ 0) (x y : ℝ) :
    ∃ q, (t.apply q).x = x ∧ (t.apply q).y = y := by
  obtain ⟨qx, hx⟩ : ∃ qx, qx * (t.m00 * t.m11 - t.m01 * t.m10) =
      t.m11 * (x - t.m02) - t.m01 * (y - t.m12) := ⟨_, div_mul_cancel₀ _ hd⟩
  obtain ⟨qy, hy⟩ : ∃ qy, qy * (t.m00 * t.m11 - t.m01 * t.m10) =
      t.m00 * (y - t.m12) - t.m10 * (x - t.m02) := ⟨_, div_mul_cancel₀ _ hd⟩
  refine ⟨⟨qx, qy⟩, ?_⟩
  rw [apply_affine t ha]
  constructor
  · apply mul_right_cancel₀ hd
    linear_combination t.m00 * hx + t.m01 * hy
  · apply mul_right_cancel₀ hd
    linear_combination t.m10 * hx + t.m11 * hy

theorem placed_polygon_near (n : ℕ) (hn : 3 ≤ n) (t : Mat3 ℝ) (a : Affine t) (o : Orthogonal t)
    (x y : ℝ) (hI : InteriorO ((ngon n).map (·.transform t)) x y) :
    (x - t.m02) ^ 2 + (y - t.m12) ^ 2 < 1 := by
  obtain ⟨q, rfl, rfl⟩ := apply_surjective_of_det t a (det_ne_zero t o) x y
  rw [← C01Geom.nrm_sq, apply_dist_position t a o, C01Geom.nrm_sq]
  -- for the (clockwise) regular polygon "strictly inside" means strictly right of every edge
  exact polygon_interior_in_disc n hn q.x q.y
    ((interiorO_iff_right_of_cw (ngon_convexCW n hn) q.x q.y).mp
      ((interiorO_transform t a (det_ne_zero t o) _ q).mp hI))

theorem sq_le_sq_add (x y u v : ℝ) (h : 0 ≤ u * x + v * y) :
    x ^ 2 + y ^ 2 ≤ (x + u) ^ 2 + (y + v) ^ 2 := by
  linear_combination 2 * h + sq_nonneg u + sq_nonneg v

/-- C12, not nested: of two copies of one regular polygon, placed by rigid motions or reflections,
the first always has a vertex that is not strictly inside the second.  (With `w` the difference of the
centres and `L1` the linear part of the first placement, some vertex `v` has `⟨L1ᵀ w, v⟩ ≥ 0`, because
the vertices sum to zero; then `|w + L1 v| ≥ |L1 v| = 1`, so the placed vertex is not closer than `1`
to the second centre.) -/
theorem placed_polygons_not_nested (n : ℕ) (hn : 3 ≤ n) (items : List (Line2 ℝ))
    (h : Shape.polygon n = some (.line items)) (t1 t2 : Mat3 ℝ)
    (a1 : Affine t1) (o1 : Orthogonal t1) (a2 : Affine t2) (o2 : Orthogonal t2) :
    ∃ e ∈ items.map (·.transform t1), ¬ InteriorO (items.map (·.transform t2)) e.sx e.sy := by
  obtain ⟨k, hkn, hge⟩ := exists_vertex_nonneg n hn
    (t1.m00 * (t1.m02 - t2.m02) + t1.m10 * (t1.m12 - t2.m12))
    (t1.m01 * (t1.m02 - t2.m02) + t1.m11 * (t1.m12 - t2.m12))
  obtain rfl := polygon_items n hn items h
  refine ⟨_, List.mem_map_of_mem (mem_ngon.mpr ⟨k, hkn, rfl⟩), fun hI => ?_⟩
  have hlt := placed_polygon_near n hn t2 a2 o2 _ _ hI
  rw [transform_sx _ t1 a1, transform_sy _ t1 a1] at hlt
  simp only [pedge, chord] at hlt
  have hSC := Real.sin_sq_add_cos_sq ((k : ℝ) * step n)
  generalize Real.sin ((k : ℝ) * step n) = S at hge hlt hSC
  generalize Real.cos ((k : ℝ) * step n) = C at hge hlt hSC
  have h1 : (t1.m00 * S + t1.m01 * C) ^ 2 + (t1.m10 * S + t1.m11 * C) ^ 2 = 1 := by
    rw [← C01Geom.nrm_sq, nrm_orth t1 o1, C01Geom.nrm_sq, hSC]
  have h2 := sq_le_sq_add (t1.m00 * S + t1.m01 * C) (t1.m10 * S + t1.m11 * C) (t1.m02 - t2.m02)
    (t1.m12 - t2.m12) (by linear_combination hge)
  rw [h1, ← add_sub_assoc, ← add_sub_assoc] at h2
  exact absurd hlt (not_lt.mpr h2)

/-- two placed copies of one regular polygon whose interiors share a point have two edges that meet -/
theorem placed_polygons_share_edge (n : Nat) (hn : 3 ≤ n) (items : List (Line2 ℝ))
    (h : Shape.polygon n = some (.line items)) (t1 t2 : Mat3 ℝ)
    (a1 : Affine t1) (o1 : Orthogonal t1) (a2 : Affine t2) (o2 : Orthogonal t2) (px py : ℝ)
    (hp1 : InteriorO (items.map (·.transform t1)) px py)
    (hp2 : InteriorO (items.map (·.transform t2)) px py) :
    ∃ a ∈ items.map (·.transform t1), ∃ b ∈ items.map (·.transform t2), SharePoint a b := by
  have hout := polygon_convexOutline n hn items h
  exact convex_overlap_edges_oriented _ _
    (ConvexOutline.transform_orthogonal items t1 a1 o1 hout)
    (ConvexOutline.transform_orthogonal items t2 a2 o2 hout) px py hp1 hp2
    (placed_polygons_not_nested n hn items h t1 t2 a1 o1 a2 o2)
    (placed_polygons_not_nested n hn items h t2 t1 a2 o2 a1 o1)

/-- C12 for regular polygons: two copies of one regular polygon, placed by rigid motions or
reflections, whose interiors share a point, test positive — provided edges that meet do so at an
angle above the relative tolerance.  No nesting hypotheses are left. -/
theorem placed_polygons_overlap_detected (n : Nat) (hn : 3 ≤ n) (items : List (Line2 ℝ))
    (h : Shape.polygon n = some (.line items)) (t1 t2 : Mat3 ℝ)
    (a1 : Affine t1) (o1 : Orthogonal t1) (a2 : Affine t2) (o2 : Orthogonal t2) (px py : ℝ)
    (hp1 : InteriorO (items.map (·.transform t1)) px py)
    (hp2 : InteriorO (items.map (·.transform t2)) px py)
    (hang : ∀ a ∈ items.map (·.transform t1), ∀ b ∈ items.map (·.transform t2),
      SharePoint a b → ¬ NearParallel a b) :
    ((Shape.line items).transform t1).intersects ((Shape.line items).transform t2) = true := by
  obtain ⟨a, ha, b, hb, hs⟩ :=
    placed_polygons_share_edge n hn items h t1 t2 a1 o1 a2 o2 px py hp1 hp2
  exact poly_complete_edges _ _ ⟨a, ha, b, hb, hang a ha b hb hs, hs⟩

/- From here to the end of the file: the hypotheses of `placed_polygons_overlap_detected` can be met
   (the square `Shape.polygon 4` at the identity and shifted by `(1/2, 0)`). -/
def idPlace : Mat3 ℝ := ⟨1, 0, 0, 0, 1, 0, 0, 0, 1⟩
noncomputable def shiftPlace : Mat3 ℝ := ⟨1, 0, 1 / 2, 0, 1, 0, 0, 0, 1⟩

theorem idPlace_affine : Affine idPlace := ⟨rfl, rfl, Or.inr rfl⟩
theorem shiftPlace_affine : Affine shiftPlace := ⟨rfl, rfl, Or.inr rfl⟩
theorem idPlace_orthogonal : Orthogonal idPlace := by
  simp [Orthogonal, idPlace]
theorem shiftPlace_orthogonal : Orthogonal shiftPlace := by
  simp [Orthogonal, shiftPlace]

def sq4 : List (Line2 ℝ) := [⟨0, 1, 1, 0⟩, ⟨1, 0, 0, -1⟩, ⟨0, -1, -1, 0⟩, ⟨-1, 0, 0, 1⟩]

theorem sq4_polygon : (Shape.polygon 4 : Option (Shape ℝ)) = some (.line sq4) := polygon_four

theorem sq4_id_map : sq4.map (·.transform idPlace) = sq4 := by
  simp only [sq4, List.map, Line2.transform, apply_affine idPlace idPlace_affine]
  simp [idPlace]

theorem sq4_shift_map :
    sq4.map (·.transform shiftPlace) =
      [⟨1 / 2, 1, 3 / 2, 0⟩, ⟨3 / 2, 0, 1 / 2, -1⟩, ⟨1 / 2, -1, -1 / 2, 0⟩, ⟨-1 / 2, 0, 1 / 2, 1⟩] := by
  simp only [sq4, List.map, Line2.transform, apply_affine shiftPlace shiftPlace_affine]
  simp only [shiftPlace]
  norm_num

theorem sq4_interior_id : InteriorO (sq4.map (·.transform idPlace)) (1 / 4) 0 := by
  rw [sq4_id_map]
  right
  simp only [sq4, List.forall_mem_cons, List.not_mem_nil, side, Line2.dx, Line2.dy]
  norm_num

theorem sq4_interior_shift : InteriorO (sq4.map (·.transform shiftPlace)) (1 / 4) 0 := by
  rw [sq4_shift_map]
  right
  simp only [List.forall_mem_cons, List.not_mem_nil, side, Line2.dx, Line2.dy]
  norm_num

/-- the hypotheses of `placed_polygons_overlap_detected` (all but `hang`) can be met: the square
`n = 4`, the identity, the translation by `(1/2, 0)`, common interior point `(1/4, 0)` -/
example : ∃ (items : List (Line2 ℝ)) (t1 t2 : Mat3 ℝ),
    (Shape.polygon 4 : Option (Shape ℝ)) = some (.line items) ∧
    t1.m00 = 1 ∧ t1.m11 = 1 ∧ t1.m22 = 1 ∧ t1.m02 = 0 ∧
    t2.m00 = 1 ∧ t2.m11 = 1 ∧ t2.m22 = 1 ∧ t2.m02 = 1 / 2 ∧
    Affine t1 ∧ Orthogonal t1 ∧ Affine t2 ∧ Orthogonal t2 ∧
    InteriorO (items.map (·.transform t1)) (1 / 4) 0 ∧
    InteriorO (items.map (·.transform t2)) (1 / 4) 0 :=
  ⟨sq4, idPlace, shiftPlace, sq4_polygon, rfl, rfl, rfl, rfl, rfl, rfl, rfl, rfl,
    idPlace_affine, idPlace_orthogonal, shiftPlace_affine, shiftPlace_orthogonal,
    sq4_interior_id, sq4_interior_shift⟩

example (hang : ∀ a ∈ sq4.map (·.transform idPlace), ∀ b ∈ sq4.map (·.transform shiftPlace),
      SharePoint a b → ¬ NearParallel a b) :
    ((Shape.line sq4).transform idPlace).intersects ((Shape.line sq4).transform shiftPlace) = true :=
  placed_polygons_overlap_detected 4 (by norm_num) sq4 sq4_polygon idPlace shiftPlace
    idPlace_affine idPlace_orthogonal shiftPlace_affine shiftPlace_orthogonal (1 / 4) 0
    sq4_interior_id sq4_interior_shift hang

example : ∃ e ∈ sq4.map (·.transform idPlace),
    ¬ InteriorO (sq4.map (·.transform shiftPlace)) e.sx e.sy :=
  placed_polygons_not_nested 4 (by norm_num) sq4 sq4_polygon idPlace shiftPlace
    idPlace_affine idPlace_orthogonal shiftPlace_affine shiftPlace_orthogonal

/-- edges that meet are perpendicular; parallel edges lie on different lines -/
theorem sq4_hang : ∀ a ∈ sq4.map (·.transform idPlace), ∀ b ∈ sq4.map (·.transform shiftPlace),
    SharePoint a b → ¬ NearParallel a b := by
  rw [sq4_id_map, sq4_shift_map]
  intro a ha b hb
  simp only [sq4, List.mem_cons, List.not_mem_nil, or_false] at ha hb
  rcases ha with rfl | rfl | rfl | rfl <;> rcases hb with rfl | rfl | rfl | rfl <;>
    exact hang_of_perp_or_apart (by simp only [side, Line2.dx, Line2.dy]; norm_num)

/-- `placed_polygons_overlap_detected` with every hypothesis discharged: the square and its copy
shifted by `(1/2, 0)` test positive -/
theorem sq4_shift_detected :
    ((Shape.line sq4).transform idPlace).intersects ((Shape.line sq4).transform shiftPlace) = true :=
  placed_polygons_overlap_detected 4 (by norm_num) sq4 sq4_polygon idPlace shiftPlace
    idPlace_affine idPlace_orthogonal shiftPlace_affine shiftPlace_orthogonal (1 / 4) 0
    sq4_interior_id sq4_interior_shift sq4_hang

end PV.Proofs.C12Placed
