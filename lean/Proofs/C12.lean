/-
  Proofs/C12.lean — C12: the pairwise overlap test agrees with exact geometry.  Carrier ℝ.

  `Atom2.intersects`, `Line2.intersects`, `Shape.intersects`, `*.transform` are the model of
  src/shape/components/{atom2,line2,atom2_ops,line2_ops}.rs, src/shape/{line_shape,molecular_shape2}.rs
  (tied to the crate by the translation ties Proofs/TieDisc.lean, TieLine.lean, TieHardShape.lean,
  TieOps.lean and the bit-exact `pair` request family).

  Discs: complete (test ⇔ the open discs share a point).  Segments (`Line2::intersects` of the `fix:`
  for lines crossing at their ends or lying along one another: relative parallel tolerance
  `TOLERANCE = 1e-12`, parameters in `[-TOLERANCE, 1 + TOLERANCE]`): the test is exactly "not
  near-parallel and the two segments, each extended by the fraction `tol` of its length at both ends,
  share a point"; hence sound up to the distance `tol·(len a + len b)` and complete for segments that
  are not near-parallel.  Polygons: the test is exactly "some pair of not-near-parallel edges shares
  a point of the extended segments"
  (`poly_iff_edges`), so a pair of not-near-parallel edges that really share a point is always
  detected (`poly_complete_edges`).  That such a pair exists whenever the interiors intersect is, for
  arbitrary outlines, the hypothesis `H_cross` of `poly_complete_partial`.  For convex outlines it is
  proved: two edges share a point when the interiors meet and neither outline is nested in the other
  (`C12Orient.convex_overlap_edges_oriented`, on the core of Proofs/C12Convex.lean), which leaves an angle
  hypothesis on the edges that meet (`C12Orient.convex_overlap_detected_oriented`); for two placed
  copies of one regular polygon the nesting hypotheses are proved as well
  (`C12Placed.placed_polygons_overlap_detected`).
-/
import Lemmas.Planar
import Proofs.C14
import Mathlib.Tactic.Ring
import Mathlib.Tactic.Linarith
import Mathlib.Tactic.Positivity
import Mathlib.Tactic.NormNum
import Mathlib.Tactic.LinearCombination

namespace PV.Proofs.C12
open PV.C01Geom

/-- an affine placement (projective row `0 0 0` or `0 0 1`): `Mat3.apply` is `p ↦ L p + t` -/
def Affine (t : Mat3 ℝ) : Prop := t.m20 = 0 ∧ t.m21 = 0 ∧ (t.m22 = 0 ∨ t.m22 = 1)

def Orthogonal (t : Mat3 ℝ) : Prop :=
  t.m00 * t.m00 + t.m10 * t.m10 = 1 ∧ t.m01 * t.m01 + t.m11 * t.m11 = 1 ∧
  t.m00 * t.m01 + t.m10 * t.m11 = 0

def Invertible (t : Mat3 ℝ) : Prop := t.m00 * t.m11 - t.m01 * t.m10 ≠ 0

theorem apply_affine (t : Mat3 ℝ) (h : Affine t) (p : Pt ℝ) :
    t.apply p = ⟨t.m00 * p.x + t.m01 * p.y + t.m02, t.m10 * p.x + t.m11 * p.y + t.m12⟩ :=
  C14.apply_affine t h p

theorem nrm_orth (t : Mat3 ℝ) (ho : Orthogonal t) (x y : ℝ) :
    nrm (t.m00 * x + t.m01 * y) (t.m10 * x + t.m11 * y) = nrm x y :=
  nrm_orthonormal ho.1 ho.2.1 ho.2.2 x y

/-- the matrix is `g` times the rotation by `θ`, with any translation column: the right side of
`C15.placed` -/
theorem orthogonal_mul_rot {g : Mat3 ℝ} (ho : Orthogonal g) (θ x y z : ℝ) :
    Orthogonal ⟨g.m00 * Real.cos θ + g.m01 * Real.sin θ, g.m00 * -Real.sin θ + g.m01 * Real.cos θ, x,
      g.m10 * Real.cos θ + g.m11 * Real.sin θ, g.m10 * -Real.sin θ + g.m11 * Real.cos θ, y,
      0, 0, z⟩ := by
  obtain ⟨h1, h2, h3⟩ := ho
  have hsc := Real.sin_sq_add_cos_sq θ
  generalize Real.cos θ = c at hsc ⊢
  generalize Real.sin θ = s at hsc ⊢
  refine ⟨?_, ?_, ?_⟩
  · linear_combination c ^ 2 * h1 + s ^ 2 * h2 + 2 * c * s * h3 + hsc
  · linear_combination s ^ 2 * h1 + c ^ 2 * h2 - 2 * c * s * h3 + hsc
  · linear_combination (-(c * s)) * h1 + (c * s) * h2 + (c ^ 2 - s ^ 2) * h3

theorem apply_dist (t : Mat3 ℝ) (ht : Affine t) (ho : Orthogonal t) (p q : Pt ℝ) :
    nrm ((t.apply p).x - (t.apply q).x) ((t.apply p).y - (t.apply q).y) =
      nrm (p.x - q.x) (p.y - q.y) := by
  rw [apply_affine t ht, apply_affine t ht, ← nrm_orth t ho (p.x - q.x)]
  congr 1 <;> ring

theorem apply_dist_position (t : Mat3 ℝ) (ht : Affine t) (ho : Orthogonal t) (p : Pt ℝ) :
    nrm ((t.apply p).x - t.m02) ((t.apply p).y - t.m12) = nrm p.x p.y := by
  rw [apply_affine t ht, ← nrm_orth t ho p.x]
  congr 1 <;> ring

/-- the centre-distance argument of every prefilter -/
theorem apply_far (t u : Mat3 ℝ) (ht : Affine t) (hto : Orthogonal t) (hu : Affine u)
    (huo : Orthogonal u) (p q : Pt ℝ) :
    nrm (t.m02 - u.m02) (t.m12 - u.m12) ≤
      nrm ((t.apply p).x - (u.apply q).x) ((t.apply p).y - (u.apply q).y) +
        (nrm p.x p.y + nrm q.x q.y) := by
  have h1 := nrm_sub_le t.m02 t.m12 (t.apply p).x (t.apply p).y u.m02 u.m12
  have h2 := nrm_sub_le (t.apply p).x (t.apply p).y (u.apply q).x (u.apply q).y u.m02 u.m12
  rw [nrm_sub_comm t.m02 t.m12 (t.apply p).x, apply_dist_position t ht hto] at h1
  rw [apply_dist_position u hu huo] at h2
  linarith

theorem det_abs (t : Mat3 ℝ) (ho : Orthogonal t) : |t.m00 * t.m11 - t.m01 * t.m10| = 1 := by
  obtain ⟨o1, o2, o3⟩ := ho
  have hsq : (t.m00 * t.m11 - t.m01 * t.m10) ^ 2 = 1 ^ 2 := by
    -- Lagrange's identity `(ad − bc)² = (a² + c²)(b² + d²) − (ab + cd)²`
    linear_combination (t.m01 * t.m01 + t.m11 * t.m11) * o1 + o2 -
      (t.m00 * t.m01 + t.m10 * t.m11) * o3
  rw [← abs_one]
  exact (sq_eq_sq_iff_abs_eq_abs _ 1).mp hsq

theorem det_ne_zero (t : Mat3 ℝ) (ho : Orthogonal t) : t.m00 * t.m11 - t.m01 * t.m10 ≠ 0 := by
  intro h0
  have := det_abs t ho
  rw [h0, abs_zero] at this
  exact zero_ne_one this

theorem atom_test (a b : Atom2 ℝ) :
    a.intersects b = true ↔ (a.x - b.x) ^ 2 + (a.y - b.y) ^ 2 < (a.r + b.r) ^ 2 := by
  simp only [Atom2.intersects, normSq, powi_two, decide_eq_true_eq, sq]

theorem atom_near (a b : Atom2 ℝ) (h0 : 0 ≤ a.r + b.r) (h : a.intersects b = true) :
    nrm (a.x - b.x) (a.y - b.y) < a.r + b.r := by
  rw [atom_test, ← nrm_sq] at h
  exact lt_of_pow_lt_pow_left₀ 2 h0 h

/-- C12 for discs: for positive radii the test answers yes exactly when the two OPEN discs share a
point (their interiors intersect) — exact, no tolerance -/
theorem atom_iff (a b : Atom2 ℝ) (ha : 0 < a.r) (hb : 0 < b.r) :
    a.intersects b = true ↔
      ∃ px py : ℝ, (px - a.x) ^ 2 + (py - a.y) ^ 2 < a.r ^ 2 ∧ (px - b.x) ^ 2 + (py - b.y) ^ 2 < b.r ^ 2 := by
  have hs : 0 < a.r + b.r := add_pos ha hb
  simp only [atom_test, ← nrm_lt_iff ha, ← nrm_lt_iff hb, ← nrm_lt_iff hs]
  constructor
  · intro h
    -- the point that divides the segment between the centres in the ratio of the radii:
    -- `a + l (b - a) = b + m (a - b)` with `l = r_a / (r_a + r_b)`, `m = r_b / (r_a + r_b)`
    obtain ⟨l, hl⟩ : ∃ l, l * (a.r + b.r) = a.r := ⟨_, div_mul_cancel₀ _ hs.ne'⟩
    obtain ⟨m, hm⟩ : ∃ m, m * (a.r + b.r) = b.r := ⟨_, div_mul_cancel₀ _ hs.ne'⟩
    have hlm : l + m = 1 := mul_right_cancel₀ hs.ne' (by rw [add_mul, hl, hm, one_mul])
    have hl0 : 0 < l := pos_of_mul_pos_left (hl.symm ▸ ha) hs.le
    have hm0 : 0 < m := pos_of_mul_pos_left (hm.symm ▸ hb) hs.le
    refine ⟨a.x + l * (b.x - a.x), a.y + l * (b.y - a.y), ?_, ?_⟩
    · rw [add_sub_cancel_left, add_sub_cancel_left, nrm_smul, abs_of_pos hl0, nrm_sub_comm]
      exact (mul_lt_mul_of_pos_left h hl0).trans_eq hl
    · rw [show a.x + l * (b.x - a.x) - b.x = m * (a.x - b.x) by
          linear_combination -(a.x - b.x) * hlm,
        show a.y + l * (b.y - a.y) - b.y = m * (a.y - b.y) by
          linear_combination -(a.y - b.y) * hlm,
        nrm_smul, abs_of_pos hm0]
      exact (mul_lt_mul_of_pos_left h hm0).trans_eq hm
  · -- the triangle inequality through the common point
    rintro ⟨px, py, h1, h2⟩
    rw [nrm_sub_comm] at h1
    linarith [nrm_sub_le a.x a.y px py b.x b.y]

theorem atom_symm (a b : Atom2 ℝ) : a.intersects b = b.intersects a := by
  rw [Bool.eq_iff_iff, atom_test, atom_test, ← nrm_sq, ← nrm_sq (b.x - a.x), nrm_sub_comm,
    add_comm a.r]

theorem atom_invariant (a b : Atom2 ℝ) (t : Mat3 ℝ) (ht : Affine t) (ho : Orthogonal t) :
    (a.transform t).intersects (b.transform t) = a.intersects b := by
  rw [Bool.eq_iff_iff, atom_test, atom_test, ← nrm_sq, ← nrm_sq (a.x - b.x)]
  exact Iff.of_eq (congrArg (· ^ 2 < _) (apply_dist t ht ho ⟨a.x, a.y⟩ ⟨b.x, b.y⟩))

theorem mol_iff (xs ys : List (Atom2 ℝ)) :
    (Shape.mol xs).intersects (Shape.mol ys) = true ↔ ∃ a ∈ xs, ∃ b ∈ ys, a.intersects b = true := by
  simp only [Shape.intersects, List.any_eq_true]

theorem mol_symm (xs ys : List (Atom2 ℝ)) :
    (Shape.mol xs).intersects (Shape.mol ys) = (Shape.mol ys).intersects (Shape.mol xs) := by
  rw [Bool.eq_iff_iff, mol_iff, mol_iff]
  constructor <;> rintro ⟨a, ha, b, hb, h⟩ <;> exact ⟨b, hb, a, ha, by rwa [atom_symm]⟩

theorem mol_invariant (xs ys : List (Atom2 ℝ)) (t : Mat3 ℝ) (ht : Affine t) (ho : Orthogonal t) :
    ((Shape.mol xs).transform t).intersects ((Shape.mol ys).transform t) =
      (Shape.mol xs).intersects (Shape.mol ys) := by
  simp only [Shape.transform, Shape.intersects, List.any_map, Function.comp_def,
    atom_invariant _ _ t ht ho]

/-- the tolerance of the segment test, as a real number -/
noncomputable def tol : ℝ := 1 / 10 ^ 12

theorem tol_pos : 0 < tol := by
  unfold tol
  positivity

/-- declared constant: `Line2::TOLERANCE` is `1e-12` -/
theorem declared_tolerance :
    Generated.lineTolerance = .lit 1 1000000000000 ∧ Generated.lineUnrecognised = [] := by decide

theorem lineTol_eq : (lineTol : ℝ) = tol := by
  norm_num [lineTol, Generated.lineTolerance, BExpr.eval, tol]

def Line2.at (l : Line2 ℝ) (s : ℝ) : ℝ × ℝ := (l.sx + s * (l.ex - l.sx), l.sy + s * (l.ey - l.sy))

theorem at_zero (l : Line2 ℝ) : Line2.at l 0 = (l.sx, l.sy) := by
  simp only [Line2.at, zero_mul, add_zero]

theorem at_one (l : Line2 ℝ) : Line2.at l 1 = (l.ex, l.ey) := by
  simp only [Line2.at, one_mul, add_sub_cancel]

noncomputable def Line2.len (l : Line2 ℝ) : ℝ := Real.sqrt ((l.ex - l.sx) ^ 2 + (l.ey - l.sy) ^ 2)

theorem len_nonneg (l : Line2 ℝ) : 0 ≤ Line2.len l := Real.sqrt_nonneg _

theorem len_eq (l : Line2 ℝ) : Real.sqrt (powi l.dx 2 + powi l.dy 2) = Line2.len l := by
  simp only [Line2.len, powi_two, Line2.dx, Line2.dy, sq]

theorem len_eq_nrm (l : Line2 ℝ) : Line2.len l = nrm (l.ex - l.sx) (l.ey - l.sy) :=
  (nrm_eq_sqrt _ _).symm

def NearParallel (a b : Line2 ℝ) : Prop :=
  |b.dy * a.dx - b.dx * a.dy| ≤ tol * (Line2.len a * Line2.len b)

def SharePoint (a b : Line2 ℝ) : Prop :=
  ∃ s t : ℝ, 0 ≤ s ∧ s ≤ 1 ∧ 0 ≤ t ∧ t ≤ 1 ∧ Line2.at a s = Line2.at b t

def ExtSharePoint (a b : Line2 ℝ) : Prop :=
  ∃ s t : ℝ, -tol ≤ s ∧ s ≤ 1 + tol ∧ -tol ≤ t ∧ t ≤ 1 + tol ∧ Line2.at a s = Line2.at b t

theorem seg_test (a b : Line2 ℝ) :
    a.intersects b = true ↔
      (¬ NearParallel a b ∧
        -tol ≤ (b.dx * (a.sy - b.sy) - b.dy * (a.sx - b.sx)) / (b.dy * a.dx - b.dx * a.dy) ∧
        (b.dx * (a.sy - b.sy) - b.dy * (a.sx - b.sx)) / (b.dy * a.dx - b.dx * a.dy) ≤ 1 + tol ∧
        -tol ≤ (a.dx * (a.sy - b.sy) - a.dy * (a.sx - b.sx)) / (b.dy * a.dx - b.dx * a.dy) ∧
        (a.dx * (a.sy - b.sy) - a.dy * (a.sx - b.sx)) / (b.dy * a.dx - b.dx * a.dy) ≤ 1 + tol) := by
  unfold Line2.intersects NearParallel
  simp only [sc1, Nat.cast_one, lineTol_eq, fabs_real, sqrt_real, len_eq]
  by_cases h : |b.dy * a.dx - b.dx * a.dy| ≤ tol * (Line2.len a * Line2.len b)
  · simp [h]
  · simp only [h, if_false, Bool.and_eq_true, decide_eq_true_eq, and_assoc, not_false_eq_true,
      true_and]

theorem cross_ne_zero {a b : Line2 ℝ} (h : ¬ NearParallel a b) : b.dy * a.dx - b.dx * a.dy ≠ 0 := by
  intro h0
  apply h
  unfold NearParallel
  rw [h0, abs_zero]
  exact mul_nonneg tol_pos.le (mul_nonneg (len_nonneg a) (len_nonneg b))

theorem nearParallel_comm (a b : Line2 ℝ) : NearParallel a b ↔ NearParallel b a := by
  unfold NearParallel
  rw [show a.dy * b.dx - a.dx * b.dy = -(b.dy * a.dx - b.dx * a.dy) by ring, abs_neg,
    mul_comm (Line2.len b)]

theorem sharePoint_symm {a b : Line2 ℝ} (h : SharePoint a b) : SharePoint b a := by
  obtain ⟨s, u, hs0, hs1, hu0, hu1, he⟩ := h
  exact ⟨u, s, hu0, hu1, hs0, hs1, he.symm⟩

theorem extSharePoint_symm {a b : Line2 ℝ} (h : ExtSharePoint a b) : ExtSharePoint b a := by
  obtain ⟨s, u, hs0, hs1, hu0, hu1, he⟩ := h
  exact ⟨u, s, hu0, hu1, hs0, hs1, he.symm⟩

theorem sharePoint_ext (a b : Line2 ℝ) : SharePoint a b → ExtSharePoint a b := by
  rintro ⟨s, u, hs0, hs1, hu0, hu1, he⟩
  have := tol_pos
  exact ⟨s, u, by linarith, by linarith, by linarith, by linarith, he⟩

/-- Cramer's rule; the right sides are the parameters `ua`, `ub` that `Line2::intersects` computes -/
theorem at_eq_iff {a b : Line2 ℝ} (hD : b.dy * a.dx - b.dx * a.dy ≠ 0) (s u : ℝ) :
    Line2.at a s = Line2.at b u ↔
      s = (b.dx * (a.sy - b.sy) - b.dy * (a.sx - b.sx)) / (b.dy * a.dx - b.dx * a.dy) ∧
      u = (a.dx * (a.sy - b.sy) - a.dy * (a.sx - b.sx)) / (b.dy * a.dx - b.dx * a.dy) := by
  rw [eq_div_iff hD, eq_div_iff hD]
  simp only [Line2.at, Prod.mk.injEq, Line2.dx, Line2.dy] at hD ⊢
  constructor
  · rintro ⟨ex, ey⟩
    constructor
    · linear_combination (b.ey - b.sy) * ex - (b.ex - b.sx) * ey
    · linear_combination (a.ey - a.sy) * ex - (a.ex - a.sx) * ey
  · rintro ⟨hs, hu⟩
    constructor
    · apply mul_right_cancel₀ hD
      linear_combination (a.ex - a.sx) * hs - (b.ex - b.sx) * hu
    · apply mul_right_cancel₀ hD
      linear_combination (a.ey - a.sy) * hs - (b.ey - b.sy) * hu

theorem seg_iff (a b : Line2 ℝ) :
    a.intersects b = true ↔ (¬ NearParallel a b ∧ ExtSharePoint a b) := by
  rw [seg_test]
  constructor
  · rintro ⟨hp, h1, h2, h3, h4⟩
    exact ⟨hp, _, _, h1, h2, h3, h4, (at_eq_iff (cross_ne_zero hp) _ _).mpr ⟨rfl, rfl⟩⟩
  · rintro ⟨hp, s, u, hs0, hs1, hu0, hu1, he⟩
    obtain ⟨rfl, rfl⟩ := (at_eq_iff (cross_ne_zero hp) s u).mp he
    exact ⟨hp, hs0, hs1, hu0, hu1⟩

/-- C12 for segments, soundness: a yes means the (`tol`-extended) segments really share a point, and
the segments are not near-parallel -/
theorem seg_sound (a b : Line2 ℝ) (h : a.intersects b = true) :
    ExtSharePoint a b ∧ ¬ NearParallel a b :=
  ((seg_iff a b).mp h).symm

/-- C12 for segments, completeness: a real common point of segments that are not near-parallel is
always detected -/
theorem seg_complete (a b : Line2 ℝ) (hp : ¬ NearParallel a b) (h : SharePoint a b) :
    a.intersects b = true :=
  (seg_iff a b).mpr ⟨hp, sharePoint_ext a b h⟩

theorem exists_clamped (s : ℝ) (h0 : -tol ≤ s) (h1 : s ≤ 1 + tol) :
    ∃ s' : ℝ, 0 ≤ s' ∧ s' ≤ 1 ∧ |s' - s| ≤ tol := by
  have ht := tol_pos
  by_cases c0 : s < 0
  · exact ⟨0, le_refl _, by norm_num, abs_le.mpr ⟨by linarith, by linarith⟩⟩
  · by_cases c1 : 1 < s
    · exact ⟨1, by norm_num, le_refl _, abs_le.mpr ⟨by linarith, by linarith⟩⟩
    · exact ⟨s, by linarith, by linarith, by rw [sub_self, abs_zero]; exact ht.le⟩

/-- soundness in distances: a yes means there are points of the two (true, closed) segments within
`tol·(len a + len b)` of each other -/
theorem seg_sound_distance (a b : Line2 ℝ) (h : a.intersects b = true) :
    ∃ s t : ℝ, 0 ≤ s ∧ s ≤ 1 ∧ 0 ≤ t ∧ t ≤ 1 ∧
      nrm ((Line2.at a s).1 - (Line2.at b t).1) ((Line2.at a s).2 - (Line2.at b t).2) ≤
        tol * (Line2.len a + Line2.len b) := by
  obtain ⟨⟨s, u, hs0, hs1, hu0, hu1, he⟩, _⟩ := seg_sound a b h
  obtain ⟨s', hs'0, hs'1, hs'⟩ := exists_clamped s hs0 hs1
  obtain ⟨u', hu'0, hu'1, hu'⟩ := exists_clamped u hu0 hu1
  refine ⟨s', u', hs'0, hs'1, hu'0, hu'1, ?_⟩
  simp only [Line2.at, Prod.mk.injEq] at he ⊢
  obtain ⟨ex, ey⟩ := he
  -- the clamped points differ from the common point by `(s' - s)·dir a` and `(u' - u)·dir b`
  have e1 : a.sx + s' * (a.ex - a.sx) - (b.sx + u' * (b.ex - b.sx)) =
      (s' - s) * (a.ex - a.sx) + (u - u') * (b.ex - b.sx) := by linear_combination ex
  have e2 : a.sy + s' * (a.ey - a.sy) - (b.sy + u' * (b.ey - b.sy)) =
      (s' - s) * (a.ey - a.sy) + (u - u') * (b.ey - b.sy) := by linear_combination ey
  rw [e1, e2]
  refine (nrm_add_le _ _ _ _).trans ?_
  rw [nrm_smul, nrm_smul, ← len_eq_nrm, ← len_eq_nrm, mul_add]
  rw [abs_sub_comm] at hu'
  exact add_le_add (mul_le_mul_of_nonneg_right hs' (len_nonneg a))
    (mul_le_mul_of_nonneg_right hu' (len_nonneg b))

theorem seg_symm (a b : Line2 ℝ) : a.intersects b = b.intersects a := by
  rw [Bool.eq_iff_iff, seg_iff, seg_iff, nearParallel_comm]
  exact and_congr_right' ⟨extSharePoint_symm, extSharePoint_symm⟩

theorem atom_transform_eq (a : Atom2 ℝ) (t : Mat3 ℝ) (h : Affine t) :
    a.transform t = ⟨t.m00 * a.x + t.m01 * a.y + t.m02, t.m10 * a.x + t.m11 * a.y + t.m12, a.r⟩ := by
  simp only [Atom2.transform, apply_affine t h]

theorem line_transform_eq (l : Line2 ℝ) (t : Mat3 ℝ) (h : Affine t) :
    l.transform t = ⟨t.m00 * l.sx + t.m01 * l.sy + t.m02, t.m10 * l.sx + t.m11 * l.sy + t.m12,
                     t.m00 * l.ex + t.m01 * l.ey + t.m02, t.m10 * l.ex + t.m11 * l.ey + t.m12⟩ := by
  simp only [Line2.transform, apply_affine t h]

theorem transform_sx (a : Line2 ℝ) (t : Mat3 ℝ) (ht : Affine t) :
    (a.transform t).sx = t.m00 * a.sx + t.m01 * a.sy + t.m02 := by
  rw [line_transform_eq a t ht]

theorem transform_sy (a : Line2 ℝ) (t : Mat3 ℝ) (ht : Affine t) :
    (a.transform t).sy = t.m10 * a.sx + t.m11 * a.sy + t.m12 := by
  rw [line_transform_eq a t ht]

theorem transform_dx (a : Line2 ℝ) (t : Mat3 ℝ) (ht : Affine t) :
    (a.transform t).dx = t.m00 * a.dx + t.m01 * a.dy := by
  rw [line_transform_eq a t ht]
  simp only [Line2.dx, Line2.dy]
  ring

theorem transform_dy (a : Line2 ℝ) (t : Mat3 ℝ) (ht : Affine t) :
    (a.transform t).dy = t.m10 * a.dx + t.m11 * a.dy := by
  rw [line_transform_eq a t ht]
  simp only [Line2.dx, Line2.dy]
  ring

theorem at_transform (a : Line2 ℝ) (t : Mat3 ℝ) (ht : Affine t) (s : ℝ) :
    Line2.at (a.transform t) s =
      ((t.apply ⟨(Line2.at a s).1, (Line2.at a s).2⟩).x,
       (t.apply ⟨(Line2.at a s).1, (Line2.at a s).2⟩).y) := by
  simp only [Line2.at, Line2.transform, apply_affine t ht, Prod.mk.injEq]
  constructor <;> ring

theorem nrm_at_le (a : Line2 ℝ) (R : ℝ) (hs : nrm a.sx a.sy ≤ R) (he : nrm a.ex a.ey ≤ R) (s : ℝ)
    (h0 : 0 ≤ s) (h1 : s ≤ 1) : nrm (Line2.at a s).1 (Line2.at a s).2 ≤ R := by
  have h1' : 0 ≤ 1 - s := by linarith
  have e : Line2.at a s = ((1 - s) * a.sx + s * a.ex, (1 - s) * a.sy + s * a.ey) := by
    simp only [Line2.at, Prod.mk.injEq]
    constructor <;> ring
  rw [e]
  refine (nrm_add_le _ _ _ _).trans ?_
  rw [nrm_smul, nrm_smul, abs_of_nonneg h0, abs_of_nonneg h1']
  linarith [mul_le_mul_of_nonneg_left hs h1', mul_le_mul_of_nonneg_left he h0]

theorem len_transform (a : Line2 ℝ) (t : Mat3 ℝ) (ht : Affine t) (ho : Orthogonal t) :
    Line2.len (a.transform t) = Line2.len a := by
  rw [len_eq_nrm, len_eq_nrm]
  exact apply_dist t ht ho ⟨a.ex, a.ey⟩ ⟨a.sx, a.sy⟩

theorem cross_transform (a b : Line2 ℝ) (t : Mat3 ℝ) (ht : Affine t) :
    (b.transform t).dy * (a.transform t).dx - (b.transform t).dx * (a.transform t).dy =
      (t.m00 * t.m11 - t.m01 * t.m10) * (b.dy * a.dx - b.dx * a.dy) := by
  rw [transform_dx a t ht, transform_dy a t ht, transform_dx b t ht, transform_dy b t ht]
  ring

/-- the left side is the numerator `ua_t` of `Line2::intersects` -/
theorem uat_transform (a b : Line2 ℝ) (t : Mat3 ℝ) (ht : Affine t) :
    (b.transform t).dx * ((a.transform t).sy - (b.transform t).sy) -
        (b.transform t).dy * ((a.transform t).sx - (b.transform t).sx) =
      (t.m00 * t.m11 - t.m01 * t.m10) * (b.dx * (a.sy - b.sy) - b.dy * (a.sx - b.sx)) := by
  rw [transform_dx b t ht, transform_dy b t ht, transform_sx a t ht, transform_sy a t ht,
    transform_sx b t ht, transform_sy b t ht]
  ring

theorem nearParallel_transform (a b : Line2 ℝ) (t : Mat3 ℝ) (ht : Affine t) (ho : Orthogonal t) :
    NearParallel (a.transform t) (b.transform t) ↔ NearParallel a b := by
  unfold NearParallel
  rw [len_transform a t ht ho, len_transform b t ht ho, cross_transform a b t ht, abs_mul,
    det_abs t ho, one_mul]

/-- orthogonal, not merely invertible: the near-parallel test needs the lengths and the absolute
value of the cross product preserved -/
theorem seg_invariant (a b : Line2 ℝ) (t : Mat3 ℝ) (ht : Affine t) (ho : Orthogonal t) :
    (a.transform t).intersects (b.transform t) = a.intersects b := by
  have hdet := det_ne_zero t ho
  -- the second Cramer numerator is the first with the roles of `a` and `b` exchanged, negated
  have eB : (a.transform t).dx * ((a.transform t).sy - (b.transform t).sy) -
        (a.transform t).dy * ((a.transform t).sx - (b.transform t).sx) =
      (t.m00 * t.m11 - t.m01 * t.m10) * (a.dx * (a.sy - b.sy) - a.dy * (a.sx - b.sx)) := by
    linear_combination -uat_transform b a t ht
  rw [Bool.eq_iff_iff, seg_test, seg_test, nearParallel_transform a b t ht ho,
    cross_transform a b t ht, uat_transform a b t ht, eB, mul_div_mul_left _ _ hdet,
    mul_div_mul_left _ _ hdet]

/-- the polygon test is exactly "some edge of one meets (up to the end tolerance) an edge of the other
that is not near-parallel to it" -/
theorem poly_iff_edges (xs ys : List (Line2 ℝ)) :
    (Shape.line xs).intersects (Shape.line ys) = true ↔
      ∃ a ∈ xs, ∃ b ∈ ys, ¬ NearParallel a b ∧ ExtSharePoint a b := by
  simp only [Shape.intersects, List.any_eq_true, seg_iff]

theorem poly_symm (xs ys : List (Line2 ℝ)) :
    (Shape.line xs).intersects (Shape.line ys) = (Shape.line ys).intersects (Shape.line xs) := by
  rw [Bool.eq_iff_iff]
  simp only [Shape.intersects, List.any_eq_true]
  constructor <;> rintro ⟨a, ha, b, hb, h⟩ <;> exact ⟨b, hb, a, ha, by rwa [seg_symm]⟩

theorem poly_invariant (xs ys : List (Line2 ℝ)) (t : Mat3 ℝ) (ht : Affine t) (ho : Orthogonal t) :
    ((Shape.line xs).transform t).intersects ((Shape.line ys).transform t) =
      (Shape.line xs).intersects (Shape.line ys) := by
  simp only [Shape.transform, Shape.intersects, List.any_map, Function.comp_def,
    seg_invariant _ _ t ht ho]

/-- C12 for polygons, soundness: a yes means two edges, each extended by the fraction `tol` of its
length, share a point (by `seg_sound_distance` the boundaries are then within `tol·(len a + len b)`
of each other) -/
theorem poly_sound (xs ys : List (Line2 ℝ)) (h : (Shape.line xs).intersects (Shape.line ys) = true) :
    ∃ a ∈ xs, ∃ b ∈ ys, ExtSharePoint a b := by
  rw [poly_iff_edges] at h
  obtain ⟨a, ha, b, hb, _, hs⟩ := h
  exact ⟨a, ha, b, hb, hs⟩

theorem poly_complete_edges (xs ys : List (Line2 ℝ))
    (h : ∃ a ∈ xs, ∃ b ∈ ys, ¬ NearParallel a b ∧ SharePoint a b) :
    (Shape.line xs).intersects (Shape.line ys) = true := by
  rw [poly_iff_edges]
  obtain ⟨a, ha, b, hb, hnp, hs⟩ := h
  exact ⟨a, ha, b, hb, hnp, sharePoint_ext a b hs⟩

/-- C12, coincident copies: an outline with two consecutive edges that are not near-parallel (the
end of one is the start of the next) tests positive against an identical copy of itself -/
theorem coincident_detected (xs : List (Line2 ℝ)) (e f : Line2 ℝ) (he : e ∈ xs) (hf : f ∈ xs)
    (hjoin : e.ex = f.sx ∧ e.ey = f.sy) (hnp : ¬ NearParallel e f) :
    (Shape.line xs).intersects (Shape.line xs) = true := by
  apply poly_complete_edges
  refine ⟨e, he, f, hf, hnp, 1, 0, zero_le_one, le_rfl, le_rfl, zero_le_one, ?_⟩
  rw [at_one, at_zero, hjoin.1, hjoin.2]

/-- the geometric hypothesis under which the edge test is complete for two placed copies; for convex
outlines it follows from `C12Orient.convex_overlap_edges_oriented` and an angle hypothesis on the
edges that meet -/
def H_cross (interiorsMeet : Prop) (xs ys : List (Line2 ℝ)) : Prop :=
  interiorsMeet → ∃ a ∈ xs, ∃ b ∈ ys, ¬ NearParallel a b ∧ SharePoint a b

/-- C12 for polygons, completeness in part: under `H_cross` (two congruent convex polygons whose
interiors intersect have a pair of not-near-parallel edges with a common point) overlapping interiors
are detected -/
theorem poly_complete_partial (interiorsMeet : Prop) (xs ys : List (Line2 ℝ))
    (hc : H_cross interiorsMeet xs ys) (h : interiorsMeet) :
    (Shape.line xs).intersects (Shape.line ys) = true :=
  poly_complete_edges xs ys (hc h)

theorem nearParallel_iff_sq (a b : Line2 ℝ) :
    NearParallel a b ↔
      (b.dy * a.dx - b.dx * a.dy) ^ 2 ≤
        tol ^ 2 * (((a.ex - a.sx) ^ 2 + (a.ey - a.sy) ^ 2) * ((b.ex - b.sx) ^ 2 + (b.ey - b.sy) ^ 2)) := by
  unfold NearParallel
  have hR : 0 ≤ tol * (Line2.len a * Line2.len b) :=
    mul_nonneg tol_pos.le (mul_nonneg (len_nonneg a) (len_nonneg b))
  rw [← pow_le_pow_iff_left₀ (abs_nonneg _) hR two_ne_zero, sq_abs, mul_pow, mul_pow, len_eq_nrm,
    len_eq_nrm, nrm_sq, nrm_sq]

/-- the diagonals of the unit square cross; its left and right sides (parallel) do not -/
example : (⟨0, 0, 1, 1⟩ : Line2 ℝ).intersects ⟨0, 1, 1, 0⟩ = true := by
  apply seg_complete
  · rw [nearParallel_iff_sq]
    norm_num [Line2.dx, Line2.dy, tol]
  · exact ⟨1 / 2, 1 / 2, by norm_num, by norm_num, by norm_num, by norm_num, by
      norm_num [Line2.at]⟩
example : (⟨0, 0, 0, 1⟩ : Line2 ℝ).intersects ⟨1, 0, 1, 1⟩ = false := by
  rw [Bool.eq_false_iff]
  intro h
  apply (seg_sound _ _ h).2
  rw [nearParallel_iff_sq]
  norm_num [Line2.dx, Line2.dy, tol]

end PV.Proofs.C12
