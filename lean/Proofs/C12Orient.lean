/-
  Proofs/C12Orient.lean — orientation and placement of convex outlines (C12, polygons).

  `Proofs/C12Convex.lean` is about two COUNTER-CLOCKWISE strictly convex outlines, and a placement
  with a reflection (negative determinant) turns a counter-clockwise outline into a clockwise one.
  Traversing an outline backwards (`flipChain`) changes neither the notion "strictly inside"
  (`InteriorO`) nor which edges share a point, and an affine placement multiplies `side` and `turn`
  by its determinant: so the image of a convex outline is a convex outline, and
  `convex_overlap_edges` holds for outlines of either orientation, up to the model's test.
  The working notion is `Chain σ`, a convex outline whose turns have the sign of `σ`: the three
  notions the statements use (`ConvexChain`, `ConvexChainCW`, `ConvexOutline`) are expressed in it
  (`chain_one_iff`, `chain_neg_one_iff`, `convexOutline_iff`) and flipped or placed there.
  Carrier ℝ.
-/
import Proofs.C12Convex
import Mathlib.Tactic.Ring
import Mathlib.Tactic.Linarith
import Mathlib.Tactic.NormNum
import Mathlib.Tactic.LinearCombination

namespace PV.Proofs.C12Orient
open PV.Proofs.C12 PV.Proofs.C12Convex

def Line2.rev (e : Line2 ℝ) : Line2 ℝ := ⟨e.ex, e.ey, e.sx, e.sy⟩
def flipChain (xs : List (Line2 ℝ)) : List (Line2 ℝ) := (xs.map Line2.rev).reverse
def ConvexChainCW (xs : List (Line2 ℝ)) : Prop := C12Convex.ConvexChain (flipChain xs)
def ConvexOutline (xs : List (Line2 ℝ)) : Prop := C12Convex.ConvexChain xs ∨ ConvexChainCW xs
def InteriorO (xs : List (Line2 ℝ)) (px py : ℝ) : Prop :=
  (∀ e ∈ xs, 0 < C12Convex.side e px py) ∨ (∀ e ∈ xs, C12Convex.side e px py < 0)
def det (t : Mat3 ℝ) : ℝ := t.m00 * t.m11 - t.m01 * t.m10

@[simp] theorem rev_rev (e : Line2 ℝ) : Line2.rev (Line2.rev e) = e := rfl

@[simp] theorem rev_sx (e : Line2 ℝ) : (Line2.rev e).sx = e.ex := rfl
@[simp] theorem rev_sy (e : Line2 ℝ) : (Line2.rev e).sy = e.ey := rfl
@[simp] theorem rev_ex (e : Line2 ℝ) : (Line2.rev e).ex = e.sx := rfl
@[simp] theorem rev_ey (e : Line2 ℝ) : (Line2.rev e).ey = e.sy := rfl

theorem side_rev (e : Line2 ℝ) (px py : ℝ) : side (Line2.rev e) px py = - side e px py := by
  simp only [side, Line2.dx, Line2.dy, Line2.rev]
  ring

theorem turn_rev_left (e f : Line2 ℝ) : turn (Line2.rev e) f = - turn e f := by
  simp only [turn, Line2.dx, Line2.dy, Line2.rev]
  ring

theorem turn_rev_right (e f : Line2 ℝ) : turn e (Line2.rev f) = - turn e f := by
  simp only [turn, Line2.dx, Line2.dy, Line2.rev]
  ring

theorem turn_rev (e f : Line2 ℝ) : turn (Line2.rev e) (Line2.rev f) = turn e f := by
  rw [turn_rev_left, turn_rev_right, neg_neg]

theorem turn_swap (e f : Line2 ℝ) : turn f e = - turn e f := by
  simp only [turn]
  ring

theorem at_rev (a : Line2 ℝ) (s : ℝ) : Line2.at (Line2.rev a) s = Line2.at a (1 - s) := by
  simp only [Line2.at, Line2.rev, Prod.mk.injEq]
  constructor <;> ring

theorem sharePoint_rev {a b : Line2 ℝ} (h : SharePoint a b) : SharePoint (Line2.rev a) b := by
  obtain ⟨s, u, hs0, hs1, hu0, hu1, he⟩ := h
  refine ⟨1 - s, u, by linarith, by linarith, hu0, hu1, ?_⟩
  rw [at_rev, sub_sub_cancel, he]

theorem mem_flipChain {xs : List (Line2 ℝ)} {e : Line2 ℝ} :
    e ∈ flipChain xs ↔ Line2.rev e ∈ xs := by
  unfold flipChain
  rw [List.mem_reverse, List.mem_map]
  constructor
  · rintro ⟨a, ha, rfl⟩
    rwa [rev_rev]
  · intro h
    exact ⟨_, h, rev_rev e⟩

theorem rev_mem_flipChain {xs : List (Line2 ℝ)} {e : Line2 ℝ} (h : e ∈ xs) :
    Line2.rev e ∈ flipChain xs := mem_flipChain.mpr (by rwa [rev_rev])

theorem forall_mem_flipChain {xs : List (Line2 ℝ)} {P : Line2 ℝ → Prop} :
    (∀ e ∈ flipChain xs, P e) ↔ ∀ e ∈ xs, P (Line2.rev e) :=
  ⟨fun h _ he => h _ (rev_mem_flipChain he), fun h _ he => h _ (mem_flipChain.mp he)⟩

theorem flipChain_flipChain (xs : List (Line2 ℝ)) : flipChain (flipChain xs) = xs := by
  unfold flipChain
  rw [List.map_reverse, List.reverse_reverse, List.map_map]
  exact List.map_id'' rev_rev xs

theorem length_flipChain (xs : List (Line2 ℝ)) : (flipChain xs).length = xs.length := by
  simp [flipChain]

theorem getElem_flipChain (xs : List (Line2 ℝ)) (i : ℕ) (h : i < (flipChain xs).length) :
    (flipChain xs)[i] =
      Line2.rev (xs[xs.length - 1 - i]'(by rw [length_flipChain] at h; omega)) := by
  simp [flipChain, List.getElem_reverse]

theorem side_transform (t : Mat3 ℝ) (ht : Affine t) (e : Line2 ℝ) (p : Pt ℝ) :
    side (e.transform t) (t.apply p).x (t.apply p).y = det t * side e p.x p.y := by
  unfold side det
  rw [transform_dx e t ht, transform_dy e t ht, transform_sx e t ht, transform_sy e t ht,
    apply_affine t ht]
  ring

theorem turn_transform (t : Mat3 ℝ) (ht : Affine t) (e f : Line2 ℝ) :
    turn (e.transform t) (f.transform t) = det t * turn e f := by
  unfold turn det
  linear_combination cross_transform e f t ht

theorem side_transform_start (t : Mat3 ℝ) (ht : Affine t) (e f : Line2 ℝ) :
    side (e.transform t) (f.transform t).sx (f.transform t).sy = det t * side e f.sx f.sy :=
  side_transform t ht e ⟨f.sx, f.sy⟩

/-- a closed strictly convex outline, counter-clockwise for `0 < σ`, clockwise for `σ < 0`
(consecutive edges stated with the index equation as a hypothesis) -/
structure Chain (σ : ℝ) (xs : List (Line2 ℝ)) : Prop where
  three : 3 ≤ xs.length
  adj : ∀ i j (hi : i < xs.length) (hj : j < xs.length), j = (i + 1) % xs.length →
    (xs[i]).ex = (xs[j]).sx ∧ (xs[i]).ey = (xs[j]).sy ∧ 0 < σ * turn (xs[i]) (xs[j])
  hull : ∀ e ∈ xs, ∀ f ∈ xs, 0 ≤ σ * side e f.sx f.sy

theorem Chain.of_succ {σ : ℝ} {xs : List (Line2 ℝ)} (three : 3 ≤ xs.length)
    (succ : ∀ i (h : i < xs.length),
      (xs[i]).ex = (xs[(i + 1) % xs.length]'(Nat.mod_lt _ (by omega))).sx ∧
      (xs[i]).ey = (xs[(i + 1) % xs.length]'(Nat.mod_lt _ (by omega))).sy ∧
      0 < σ * turn (xs[i]) (xs[(i + 1) % xs.length]'(Nat.mod_lt _ (by omega))))
    (hull : ∀ e ∈ xs, ∀ f ∈ xs, 0 ≤ σ * side e f.sx f.sy) : Chain σ xs := by
  refine ⟨three, fun i j hi hj hij => ?_, hull⟩
  subst hij
  exact succ i hi

theorem chain_one_iff (xs : List (Line2 ℝ)) : ConvexChain xs ↔ Chain 1 xs := by
  constructor
  · intro h
    refine .of_succ h.three (fun i hi => ?_) (fun e he f hf => ?_)
    · exact ⟨(h.joined i hi).1, (h.joined i hi).2, by simpa using h.left i hi⟩
    · simpa using h.hull e he f hf
  · intro h
    have hn : 0 < xs.length := by have := h.three; omega
    refine ⟨h.three, ?_, ?_, ?_⟩
    · intro i hi
      have := h.adj i _ hi (Nat.mod_lt _ hn) rfl
      exact ⟨this.1, this.2.1⟩
    · intro i hi
      have := h.adj i _ hi (Nat.mod_lt _ hn) rfl
      simpa using this.2.2
    · intro e he f hf
      simpa using h.hull e he f hf

theorem Chain.next {σ : ℝ} {xs : List (Line2 ℝ)} (h : Chain σ xs) {e : Line2 ℝ} (he : e ∈ xs) :
    ∃ f ∈ xs, e.ex = f.sx ∧ e.ey = f.sy := by
  obtain ⟨i, hi, rfl⟩ := List.getElem_of_mem he
  have hn : 0 < xs.length := by omega
  have := h.adj i _ hi (Nat.mod_lt _ hn) rfl
  exact ⟨_, List.getElem_mem _, this.1, this.2.1⟩

/-- the successor relation read in the reversed list: if `j` follows `i` cyclically, then `n - 1 - i`
follows `n - 1 - j` -/
theorem idx_flip (n i j : ℕ) (hi : i < n) (hij : j = (i + 1) % n) :
    n - 1 - i = (n - 1 - j + 1) % n := by
  rcases Nat.lt_or_ge (i + 1) n with h | h
  · rw [Nat.mod_eq_of_lt h] at hij
    subst hij
    rw [Nat.mod_eq_of_lt (by omega)]
    omega
  · have hn : i + 1 = n := by omega
    subst hn
    rw [Nat.mod_self] at hij
    subst hij
    have e : i + 1 - 1 - 0 + 1 = i + 1 := by omega
    rw [e, Nat.mod_self]
    omega

theorem Chain.flip {σ : ℝ} {xs : List (Line2 ℝ)} (h : Chain σ xs) : Chain (-σ) (flipChain xs) := by
  have hlen := length_flipChain xs
  refine ⟨h.three.trans_eq hlen.symm, ?_, ?_⟩
  · intro i j hi hj hij
    rw [getElem_flipChain, getElem_flipChain]
    rw [hlen] at hi hj hij
    obtain ⟨h1, h2, h3⟩ := h.adj (xs.length - 1 - j) (xs.length - 1 - i)
      (Nat.sub_one_sub_lt hj) (Nat.sub_one_sub_lt hi) (idx_flip xs.length i j hi hij)
    refine ⟨h1.symm, h2.symm, ?_⟩
    rwa [turn_rev, turn_swap, neg_mul_neg]
  · intro e he f hf
    rw [mem_flipChain] at he hf
    obtain ⟨g, hg, hgx, hgy⟩ := h.next hf
    have := h.hull _ he g hg
    rwa [side_rev, mul_neg, ← neg_mul, ← hgx, ← hgy] at this

theorem chain_neg_one_iff (xs : List (Line2 ℝ)) : ConvexChainCW xs ↔ Chain (-1) xs := by
  unfold ConvexChainCW
  rw [chain_one_iff]
  constructor
  · intro h
    simpa only [flipChain_flipChain] using h.flip
  · intro h
    simpa only [neg_neg] using h.flip

theorem convexOutline_iff (xs : List (Line2 ℝ)) : ConvexOutline xs ↔ Chain 1 xs ∨ Chain (-1) xs :=
  or_congr (chain_one_iff xs) (chain_neg_one_iff xs)

theorem exists_pos_factor {a b : ℝ} (h : 0 < a * b) : ∃ c, 0 < c ∧ b = c * a :=
  ⟨b / a, div_pos_iff.mpr ((mul_pos_iff.mp h).imp And.symm And.symm),
    (div_mul_cancel₀ b (left_ne_zero_of_mul h.ne')).symm⟩

/-- `hs`: the orientation `σ'` of the image has the sign of `σ · det t` -/
theorem Chain.transform {σ σ' : ℝ} {xs : List (Line2 ℝ)} (h : Chain σ xs) (t : Mat3 ℝ)
    (ht : Affine t) (hs : 0 < σ * (σ' * det t)) : Chain σ' (xs.map (·.transform t)) := by
  obtain ⟨c, hc, hσ⟩ := exists_pos_factor hs
  refine ⟨h.three.trans_eq (List.length_map _).symm, ?_, ?_⟩
  · intro i j hi hj hij
    simp only [List.length_map] at hi hj hij
    simp only [List.getElem_map]
    obtain ⟨h1, h2, h3⟩ := h.adj i j hi hj hij
    refine ⟨?_, ?_, ?_⟩
    · simp only [Line2.transform, h1, h2]
    · simp only [Line2.transform, h1, h2]
    · rw [turn_transform t ht, ← mul_assoc, hσ, mul_assoc]
      exact mul_pos hc h3
  · intro e he f hf
    rw [List.mem_map] at he hf
    obtain ⟨e0, he0, rfl⟩ := he
    obtain ⟨f0, hf0, rfl⟩ := hf
    rw [side_transform_start t ht, ← mul_assoc, hσ, mul_assoc]
    exact mul_nonneg hc.le (h.hull e0 he0 f0 hf0)

/-- C12 for convex polygons: the image of a convex outline under an invertible affine placement is a
convex outline; a negative determinant swaps the two orientations -/
theorem ConvexOutline.transform (xs : List (Line2 ℝ)) (t : Mat3 ℝ) (ht : Affine t)
    (hd : det t ≠ 0) : ConvexOutline xs → ConvexOutline (xs.map (·.transform t)) := by
  rw [convexOutline_iff, convexOutline_iff]
  rcases lt_or_gt_of_ne hd with hneg | hpos
  · rintro (h | h)
    · exact Or.inr (h.transform t ht (by linarith))
    · exact Or.inl (h.transform t ht (by linarith))
  · rintro (h | h)
    · exact Or.inl (h.transform t ht (by linarith))
    · exact Or.inr (h.transform t ht (by linarith))

theorem ConvexOutline.transform_orthogonal (xs : List (Line2 ℝ)) (t : Mat3 ℝ) (ht : Affine t)
    (ho : Orthogonal t) : ConvexOutline xs → ConvexOutline (xs.map (·.transform t)) :=
  ConvexOutline.transform xs t ht (det_ne_zero t ho)

theorem interiorO_flip (xs : List (Line2 ℝ)) (px py : ℝ) :
    InteriorO (flipChain xs) px py ↔ InteriorO xs px py := by
  unfold InteriorO
  simp only [forall_mem_flipChain, side_rev, neg_pos, neg_neg_iff_pos]
  exact Or.comm

theorem interior_flipChain (xs : List (Line2 ℝ)) (px py : ℝ) :
    Interior (flipChain xs) px py ↔ ∀ e ∈ xs, side e px py < 0 := by
  simp only [Interior, forall_mem_flipChain, side_rev, neg_pos]

theorem interiorO_transform (t : Mat3 ℝ) (ha : Affine t) (hd : det t ≠ 0) (items : List (Line2 ℝ))
    (p : Pt ℝ) :
    InteriorO (items.map (·.transform t)) (t.apply p).x (t.apply p).y ↔ InteriorO items p.x p.y := by
  unfold InteriorO
  simp only [List.forall_mem_map, side_transform t ha]
  -- the sign rule for products, the sign of `det t` being known
  rcases lt_or_gt_of_ne hd with hneg | hpos
  · simp only [mul_pos_iff, mul_neg_iff, hneg, hneg.not_gt, true_and, false_and, false_or]
    exact Or.comm
  · simp only [mul_pos_iff, mul_neg_iff, hpos, hpos.not_gt, true_and, false_and, or_false]

/-- the vector identity `cross(u,v)·w = cross(w,v)·u + cross(u,w)·v`, read at the corner where the
edge `g` ends and the edge `m` starts, measured by the affine function `side e` -/
theorem corner_identity (e g m n : Line2 ℝ) (px py : ℝ) (hgx : g.ex = m.sx) (hgy : g.ey = m.sy)
    (hnx : m.ex = n.sx) (hny : m.ey = n.sy) :
    turn g m * side e px py =
      turn g m * side e m.sx m.sy +
        side m px py * (side e g.sx g.sy - side e m.sx m.sy) +
        side g px py * (side e n.sx n.sy - side e m.sx m.sy) := by
  simp only [turn, side, Line2.dx, Line2.dy, hgx, hgy, ← hnx, ← hny]
  ring

/-- at a vertex that is farthest to the left of some edge `e`, a point strictly right of both adjacent
edges would be even farther left of `e` — but it is strictly right of `e` -/
theorem ConvexChain.not_all_right {xs : List (Line2 ℝ)} (hx : ConvexChain xs) (px py : ℝ) :
    ¬ ∀ e ∈ xs, side e px py < 0 := by
  intro hall
  have hne : xs ≠ [] := List.ne_nil_of_length_pos (by have := hx.three; omega)
  obtain ⟨e, he⟩ := List.exists_mem_of_ne_nil xs hne
  obtain ⟨m, hm, hmin⟩ := exists_min_list (fun f : Line2 ℝ => - side e f.sx f.sy) xs hne
  have hmax : ∀ f ∈ xs, side e f.sx f.sy - side e m.sx m.sy ≤ 0 := fun f hf =>
    sub_nonpos.mpr (neg_le_neg_iff.mp (hmin f hf))
  obtain ⟨n, hn, hnx, hny, -⟩ := hx.next hm
  obtain ⟨g, hg, hgx, hgy, hT⟩ := hx.prev hm
  have h1 : turn g m * side e px py < 0 := mul_neg_of_pos_of_neg hT (hall e he)
  rw [corner_identity e g m n px py hgx hgy hnx hny] at h1
  exact absurd h1 (not_lt.mpr (add_nonneg (add_nonneg (mul_nonneg hT.le (hx.hull e he m hm))
    (mul_nonneg_of_nonpos_of_nonpos (hall m hm).le (hmax g hg)))
    (mul_nonneg_of_nonpos_of_nonpos (hall g hg).le (hmax n hn))))

theorem interiorO_iff_of_ccw {xs : List (Line2 ℝ)} (hx : ConvexChain xs) (px py : ℝ) :
    InteriorO xs px py ↔ Interior xs px py :=
  ⟨fun h => h.resolve_right (ConvexChain.not_all_right hx px py), Or.inl⟩

theorem interiorO_iff_of_cw {xs : List (Line2 ℝ)} (hx : ConvexChainCW xs) (px py : ℝ) :
    InteriorO xs px py ↔ Interior (flipChain xs) px py := by
  rw [← interiorO_flip]
  exact interiorO_iff_of_ccw hx px py

theorem interiorO_iff_right_of_cw {xs : List (Line2 ℝ)} (hx : ConvexChainCW xs) (px py : ℝ) :
    InteriorO xs px py ↔ ∀ e ∈ xs, side e px py < 0 :=
  (interiorO_iff_of_cw hx px py).trans (interior_flipChain xs px py)

/-- a convex outline has a counter-clockwise representative — itself, or itself traversed backwards —
with the same interior, the same vertices, and the same edges up to their direction -/
theorem ConvexOutline.ccw {xs : List (Line2 ℝ)} (h : ConvexOutline xs) :
    ∃ xs', ConvexChain xs' ∧ (∀ px py, InteriorO xs px py ↔ Interior xs' px py) ∧
      (∀ e ∈ xs, ∃ e' ∈ xs', e'.sx = e.sx ∧ e'.sy = e.sy) ∧
      (∀ a ∈ xs', ∀ b, SharePoint a b → ∃ a' ∈ xs, SharePoint a' b) := by
  rcases h with h | h
  · exact ⟨xs, h, interiorO_iff_of_ccw h, fun e he => ⟨e, he, rfl, rfl⟩,
      fun a ha b hs => ⟨a, ha, hs⟩⟩
  · refine ⟨flipChain xs, h, interiorO_iff_of_cw h, fun e he => ?_,
      fun a ha b hs => ⟨_, mem_flipChain.mp ha, sharePoint_rev hs⟩⟩
    -- `e` starts where `rev e` ends, and there the next edge of the reversed outline starts
    obtain ⟨f, hf, hfx, hfy, -⟩ := ConvexChain.next h (rev_mem_flipChain he)
    exact ⟨f, hf, hfx.symm, hfy.symm⟩

/-- `convex_overlap_edges` for outlines of either orientation -/
theorem convex_overlap_edges_oriented (xs ys : List (Line2 ℝ)) (hx : ConvexOutline xs)
    (hy : ConvexOutline ys) (px py : ℝ) (hpx : InteriorO xs px py) (hpy : InteriorO ys px py)
    (hnx : ∃ e ∈ xs, ¬ InteriorO ys e.sx e.sy) (hny : ∃ f ∈ ys, ¬ InteriorO xs f.sx f.sy) :
    ∃ a ∈ xs, ∃ b ∈ ys, SharePoint a b := by
  obtain ⟨xs', hcx, hix, hvx, hex⟩ := hx.ccw
  obtain ⟨ys', hcy, hiy, hvy, hey⟩ := hy.ccw
  have hnx' : ∃ e ∈ xs', ¬ Interior ys' e.sx e.sy := by
    obtain ⟨e, he, hne⟩ := hnx
    obtain ⟨e', he', h1, h2⟩ := hvx e he
    exact ⟨e', he', by rwa [h1, h2, ← hiy]⟩
  have hny' : ∃ f ∈ ys', ¬ Interior xs' f.sx f.sy := by
    obtain ⟨f, hf, hnf⟩ := hny
    obtain ⟨f', hf', h1, h2⟩ := hvy f hf
    exact ⟨f', hf', by rwa [h1, h2, ← hix]⟩
  obtain ⟨a, ha, b, hb, hs⟩ := convex_overlap_edges xs' ys' hcx hcy px py ((hix _ _).mp hpx)
    ((hiy _ _).mp hpy) hnx' hny'
  obtain ⟨a', ha', hs'⟩ := hex a ha b hs
  obtain ⟨b', hb', hs''⟩ := hey b hb a' (sharePoint_symm hs')
  exact ⟨a', ha', b', hb', sharePoint_symm hs''⟩

/-- C12, completeness of the polygon test for convex outlines of either orientation: interiors meet,
neither outline nested strictly inside the other, and edges that meet do so at an angle above the
relative tolerance ⟹ detected.  (`InteriorO` is `Interior xs` for a counter-clockwise and
`Interior (flipChain xs)` for a clockwise outline: `interiorO_iff_of_ccw`, `interiorO_iff_of_cw`.) -/
theorem convex_overlap_detected_oriented (xs ys : List (Line2 ℝ)) (hx : ConvexOutline xs)
    (hy : ConvexOutline ys) (px py : ℝ) (hpx : InteriorO xs px py) (hpy : InteriorO ys px py)
    (hnx : ∃ e ∈ xs, ¬ InteriorO ys e.sx e.sy) (hny : ∃ f ∈ ys, ¬ InteriorO xs f.sx f.sy)
    (hang : ∀ a ∈ xs, ∀ b ∈ ys, SharePoint a b → ¬ NearParallel a b) :
    (Shape.line xs).intersects (Shape.line ys) = true := by
  obtain ⟨a, ha, b, hb, hs⟩ := convex_overlap_edges_oriented xs ys hx hy px py hpx hpy hnx hny
  exact poly_complete_edges xs ys ⟨a, ha, b, hb, hang a ha b hb hs, hs⟩

theorem convex_comb_ne_zero {x y t : ℝ} (h : 0 < x * y) (h0 : 0 ≤ t) (h1 : t ≤ 1) :
    (1 - t) * x + t * y ≠ 0 := by
  have hx : x ≠ 0 := left_ne_zero_of_mul h.ne'
  intro h2
  -- multiplied by `x` it is a convex combination of the positive numbers `x²` and `x y`
  have h3 : (1 - t) * x ^ 2 + t * (x * y) = 0 := by linear_combination x * h2
  rcases h0.eq_or_lt with rfl | ht
  · exact hx (by simpa using h3)
  · exact (add_pos_of_nonneg_of_pos (mul_nonneg (sub_nonneg.mpr h1) (sq_nonneg x)) (mul_pos ht h)).ne' h3

/-- two ways in which a pair of edges satisfies the angle hypothesis: the edges are perpendicular
(and neither is a point), or one lies strictly on one side of the line through the other, so that
they share no point -/
theorem hang_of_perp_or_apart {a b : Line2 ℝ}
    (h : (a.dx * b.dx + a.dy * b.dy = 0 ∧ b.dy * a.dx - b.dx * a.dy ≠ 0) ∨
      0 < side a b.sx b.sy * side a b.ex b.ey) (hs : SharePoint a b) : ¬ NearParallel a b := by
  rcases h with ⟨hdot, hcross⟩ | hside
  · -- `|a|²|b|² = cross² + dot²`
    have hN : ((a.ex - a.sx) ^ 2 + (a.ey - a.sy) ^ 2) * ((b.ex - b.sx) ^ 2 + (b.ey - b.sy) ^ 2) =
        (b.dy * a.dx - b.dx * a.dy) ^ 2 := by
      simp only [Line2.dx, Line2.dy] at hdot ⊢
      linear_combination
        ((a.ex - a.sx) * (b.ex - b.sx) + (a.ey - a.sy) * (b.ey - b.sy)) * hdot
    have htol : tol ^ 2 < 1 := by
      unfold tol
      norm_num
    rw [nearParallel_iff_sq, not_le, hN]
    exact mul_lt_of_lt_one_left (sq_pos_of_ne_zero hcross) htol
  · obtain ⟨s, t, hs0, hs1, ht0, ht1, he⟩ := hs
    -- the common point is on the line through `a`, where `side a` vanishes
    have h0 : side a (Line2.at a s).1 (Line2.at a s).2 = 0 := by
      simp only [side, Line2.at, Line2.dx, Line2.dy]
      ring
    rw [he, Line2.at, side_affine] at h0
    exact absurd h0 (convex_comb_ne_zero hside ht0 ht1)

/- From here to the end of the file: the hypotheses of `convex_overlap_detected_oriented` can be met
   with outlines of opposite orientation (a mirrored square against a square). -/
/-- the reflection `x ↦ -x` -/
def mirror : Mat3 ℝ := ⟨-1, 0, 0, 0, 1, 0, 0, 0, 1⟩

theorem mirror_affine : Affine mirror := ⟨rfl, rfl, Or.inr rfl⟩

theorem mirror_square :
    (square 0 0).map (·.transform mirror) =
      [⟨0, 0, -1, 0⟩, ⟨-1, 0, -1, 1⟩, ⟨-1, 1, 0, 1⟩, ⟨0, 1, 0, 0⟩] := by
  simp only [square, List.map, Line2.transform, apply_affine mirror mirror_affine]
  simp [mirror]

theorem mirror_square_cw :
    ConvexChainCW ([⟨0, 0, -1, 0⟩, ⟨-1, 0, -1, 1⟩, ⟨-1, 1, 0, 1⟩, ⟨0, 1, 0, 0⟩] : List (Line2 ℝ)) := by
  rw [← mirror_square, chain_neg_one_iff]
  exact ((chain_one_iff _).mp (square_chain 0 0)).transform mirror mirror_affine
    (by norm_num [det, mirror])

/-- the two orientations are really different -/
theorem mirror_square_not_ccw :
    ¬ ConvexChain ([⟨0, 0, -1, 0⟩, ⟨-1, 0, -1, 1⟩, ⟨-1, 1, 0, 1⟩, ⟨0, 1, 0, 0⟩] : List (Line2 ℝ)) := by
  intro h
  have := h.left 0 (by simp)
  norm_num [turn, Line2.dx, Line2.dy] at this

theorem square_shift :
    square (-1 / 2) (1 / 2) =
      [⟨-1 / 2, 1 / 2, 1 / 2, 1 / 2⟩, ⟨1 / 2, 1 / 2, 1 / 2, 3 / 2⟩, ⟨1 / 2, 3 / 2, -1 / 2, 3 / 2⟩,
       ⟨-1 / 2, 3 / 2, -1 / 2, 1 / 2⟩] := by
  simp only [square]
  norm_num

/-- the hypotheses of `convex_overlap_detected_oriented` can be met: the mirrored unit square
`[-1,0] × [0,1]` (clockwise) and the counter-clockwise square `[-1/2,1/2] × [1/2,3/2]`; `(-1/4, 3/4)`
is strictly inside both, neither is nested in the other, and all edges that meet are perpendicular -/
theorem mirror_square_detected :
    (Shape.line ([⟨0, 0, -1, 0⟩, ⟨-1, 0, -1, 1⟩, ⟨-1, 1, 0, 1⟩, ⟨0, 1, 0, 0⟩] : List (Line2 ℝ))).intersects
      (Shape.line [⟨-1 / 2, 1 / 2, 1 / 2, 1 / 2⟩, ⟨1 / 2, 1 / 2, 1 / 2, 3 / 2⟩,
        ⟨1 / 2, 3 / 2, -1 / 2, 3 / 2⟩, ⟨-1 / 2, 3 / 2, -1 / 2, 1 / 2⟩]) = true := by
  have hccw := square_chain (-1 / 2) (1 / 2)
  rw [square_shift] at hccw
  apply convex_overlap_detected_oriented _ _ (Or.inr mirror_square_cw) (Or.inl hccw) (-1 / 4) (3 / 4)
  · right
    simp only [List.forall_mem_cons, List.not_mem_nil, side, Line2.dx, Line2.dy]
    norm_num
  · rw [interiorO_iff_of_ccw hccw, ← square_shift, interior_square]
    norm_num
  · refine ⟨⟨0, 0, -1, 0⟩, by simp, ?_⟩
    rw [interiorO_iff_of_ccw hccw, ← square_shift, interior_square]
    norm_num
  · refine ⟨⟨1 / 2, 1 / 2, 1 / 2, 3 / 2⟩, by simp, fun h => ?_⟩
    have := (interiorO_iff_right_of_cw mirror_square_cw _ _).mp h ⟨0, 1, 0, 0⟩ (by simp)
    norm_num [side, Line2.dx, Line2.dy] at this
  · intro a ha b hb
    simp only [List.mem_cons, List.not_mem_nil, or_false] at ha hb
    rcases ha with rfl | rfl | rfl | rfl <;> rcases hb with rfl | rfl | rfl | rfl <;>
      exact hang_of_perp_or_apart (by simp only [side, Line2.dx, Line2.dy]; norm_num)

end PV.Proofs.C12Orient
