/-
  Proofs/C07.lean — C07: moves are accepted according to the Metropolis rule.

  Carrier ℝ.  `acceptScore` is the model of `MCOptimiser::accept_score` (optimisation.rs:167-192)
  with the uniform threshold draw `thr ∈ [0,1)` made explicit.
-/
import Lemmas.RealCarrier
import Lemmas.Optimiser
import Mathlib.MeasureTheory.Measure.Lebesgue.Basic
import Mathlib.Analysis.Complex.ExponentialBounds

namespace PV.Proofs.C07
open PV MeasureTheory

theorem exp_neg_div_le_one {d kt : ℝ} (hd : 0 ≤ d) (hkt : 0 < kt) : Real.exp (-d / kt) ≤ 1 := by
  rw [Real.exp_le_one_iff, neg_div]
  exact neg_nonpos.2 (div_nonneg hd hkt.le)

theorem surface_worse (n old kt : ℝ) (hkt : 0 < kt) (h : n ≤ old) :
    energySurface n old kt = Real.exp (-(old - n) / kt) := by
  have hk : (PV.zero : ℝ) < kt := by rwa [PV.zero, Nat.cast_zero]
  simp only [energySurface, hk, not_true_eq_false, if_false, exp_real, fmin_real, Nat.cast_one,
    ← neg_sub old n]
  exact min_eq_left (exp_neg_div_le_one (sub_nonneg.2 h) hkt)

theorem better_accepted (n old kt thr : ℝ) (h : old < n) :
    acceptScore (some n) old kt thr = some n := by
  simp [acceptScore, h]

/-- a proposal without a defined score (overlap) is never accepted -/
theorem none_rejected (old kt thr : ℝ) : acceptScore (none : Option ℝ) old kt thr = none :=
  rfl

theorem equal_accepted (old kt thr : ℝ) (h1 : thr < 1) :
    acceptScore (some old) old kt thr = some old := by
  -- the surface is 1 on either branch: `old ≤ old`, and `min (exp 0) 1 = 1`
  have hs : energySurface old old kt = 1 := by simp [energySurface]
  simp [acceptScore, testAcceptance, hs, h1]

theorem worse_at_zero_rejected (n old kt thr : ℝ) (hkt : ¬ (0 < kt)) (h : n < old) (h0 : 0 ≤ thr) :
    acceptScore (some n) old kt thr = none := by
  rw [acceptScore_of_not_pos _ _ _ _ (by rwa [PV.zero, Nat.cast_zero])]
  simp [h.not_gt, h.not_ge, PV.zero, h0.not_gt]

/-- at positive temperature a score worse by `d = old - n > 0` is accepted exactly when the
threshold is below `exp(-d / kT)` -/
theorem worse_iff (n old kt thr : ℝ) (hkt : 0 < kt) (h : n < old) :
    (acceptScore (some n) old kt thr).isSome = true ↔ thr < Real.exp (-(old - n) / kt) := by
  have h2 : ¬ old < n := not_lt.mpr h.le
  simp [acceptScore, testAcceptance, surface_worse n old kt hkt h.le, h2]

/-- a score which is not a number — over any carrier: a value that is not equal to itself, which at
IEEE doubles is exactly NaN — is never accepted, at any temperature (the `fix:` for the NaN-score
defect; ℝ has no such value, so this clause is stated carrier-generically) -/
theorem nan_never_accepted {α : Type} [Add α] [Sub α] [Mul α] [Div α] [Neg α] [LT α] [DecidableLT α]
    [LE α] [DecidableLE α] [BEq α] [NatCast α] [IntCast α] [Transc α] [FModLike α] [FMin α]
    (n old kt thr : α) (h : (n == n) = false) : acceptScore (some n) old kt thr = none := by
  simp [acceptScore, h]

theorem accepted_value (new : Option ℝ) (old kt thr s : ℝ)
    (h : acceptScore new old kt thr = some s) : new = some s :=
  acceptScore_eq_some h

/-- C07, the probability clause: the set of thresholds in `[0,1)` for which a move worse by `d ≥ 0`
is accepted at temperature `kT > 0` has Lebesgue measure `exp(-d/kT)`; given that the threshold is
uniform on `[0,1)` (trusted: rand's `Standard` for `f64`), that is the acceptance probability. -/
theorem accept_measure (d kt : ℝ) (hd : 0 ≤ d) (hkt : 0 < kt) :
    volume {u : ℝ | 0 ≤ u ∧ u < 1 ∧ u < Real.exp (-d / kt)} = ENNReal.ofReal (Real.exp (-d / kt)) := by
  have he1 : Real.exp (-d / kt) ≤ 1 := exp_neg_div_le_one hd hkt
  have hset : {u : ℝ | 0 ≤ u ∧ u < 1 ∧ u < Real.exp (-d / kt)} = Set.Ico 0 (Real.exp (-d / kt)) := by
    ext u
    constructor
    · exact fun ⟨a, _, c⟩ => ⟨a, c⟩
    · exact fun ⟨a, c⟩ => ⟨a, lt_of_lt_of_le c he1, c⟩
  rw [hset, Real.volume_Ico, sub_zero]

theorem surface_range (n old kt : ℝ) (hkt : 0 < kt) (h : n ≤ old) :
    0 < energySurface n old kt ∧ energySurface n old kt ≤ 1 := by
  rw [surface_worse n old kt hkt h]
  exact ⟨Real.exp_pos _, exp_neg_div_le_one (sub_nonneg.2 h) hkt⟩

/-- inside a run the optimiser applies exactly this rule, with the step's own draw, the current
score and the current temperature -/
theorem applied_in_step {G : Type} (score : Nat → Array ℝ → Option ℝ) (c : Cfg ℝ) (loop : Nat)
    (st : OptSt ℝ) (d : Nat × ℝ × ℝ) (st' : OptSt ℝ) (ev : Ev ℝ)
    (h : stepOnce score c loop st d = .ok (st', ev)) :
    ev.thr = d.2.2 ∧ ev.kt = st.kt ∧
    ev.accepted = (acceptScore ev.new st.cur st.kt d.2.2).isSome ∧
    (ev.accepted = true → acceptScore ev.new st.cur st.kt d.2.2 = some st'.cur) ∧
    (ev.accepted = false → st'.cur = st.cur) := by
  have s := stepOnce_spec h
  refine ⟨s.thr, s.kt, ?_⟩
  rcases s.verdict with ⟨hacc, hs, -⟩ | ⟨hacc, hs, -, hcur, -⟩
  · simp [hacc, hs]
  · simp [hacc, hs, hcur]

example : acceptScore (some (1:ℝ)) 2 1 (1/10) = some 1 := by
  have h : (acceptScore (some (1:ℝ)) 2 1 (1/10)).isSome = true := by
    rw [worse_iff 1 2 1 (1/10) one_pos (by norm_num)]
    have e : (-(2 - 1) / 1 : ℝ) = -1 := by norm_num
    rw [e]
    exact lt_trans (by norm_num) Real.exp_neg_one_gt_d9
  obtain ⟨s, hs⟩ := Option.isSome_iff_exists.1 h
  rw [hs, ← acceptScore_eq_some hs]

end PV.Proofs.C07
