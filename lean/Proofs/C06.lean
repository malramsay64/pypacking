/-
  Proofs/C06.lean — C06: a rejected move leaves no trace; the result is the last accepted state.

  Statements are about `optimise` (Model/Optimiser.lean), for an ARBITRARY carrier `α` (no algebraic
  law is used: restoration is copying, so the theorems hold verbatim at `Float`, bit for bit),
  an arbitrary (history-dependent) score function, an arbitrary draw generator, any number of
  parameters and handles, any bounds.
-/
import Lemmas.Optimiser

namespace PV.Proofs.C06
open PV

set_option linter.unusedSectionVars false

variable {α : Type} [Add α] [Sub α] [Mul α] [Div α] [Neg α] [LT α] [DecidableLT α] [LE α]
         [DecidableLE α] [BEq α] [NatCast α] [IntCast α] [Transc α] [FModLike α] [FMin α]
variable {G : Type}

def DiffersAtMostAt (u v : Array α) (a : Nat) : Prop :=
  u.size = v.size ∧ ∀ j, j ≠ a → u[j]? = v[j]?

def Chained (h0 : Array α) : List (Ev α) → Prop
  | [] => True
  | e :: es => e.before = h0 ∧ Chained e.after es

def lastAfter (h0 : Array α) (evs : List (Ev α)) : Array α :=
  match evs.getLast? with
  | some e => e.after
  | none => h0

def lastAccepted (h0 : Array α) (evs : List (Ev α)) : Array α :=
  match (evs.filter (·.accepted)).getLast? with
  | some e => e.proposal
  | none => h0

def lastAcceptedScore (s0 : α) (evs : List (Ev α)) : α :=
  match (evs.filter (·.accepted)).getLast? with
  | some e => e.cur
  | none => s0

/-- `reset_value` after `set_value` restores the heap exactly, whatever was written -/
theorem reset_after_set (h : Handle α) (heap : Array α) (v : α) :
    let (h', heap') := h.setValue heap v
    h'.resetValue heap' = heap :=
  h.resetValue_setValue heap v

theorem set_differs (h : Handle α) (heap : Array α) (v : α) :
    DiffersAtMostAt heap (h.setValue heap v).2 h.addr := by
  refine ⟨by simp [Handle.setValue], ?_⟩
  intro j hj
  simp [Handle.setValue, Ne.symm hj]

/-- what a step through the cell `a` says of its event.  It mentions the event alone, not the states
around it, so the run invariant `Inv` can keep it for every event of the log -/
def Good (a : Nat) (ev : Ev α) : Prop :=
  ((ev.accepted = true ∧ ev.after = ev.proposal) ∨ (ev.accepted = false ∧ ev.after = ev.before)) ∧
  DiffersAtMostAt ev.before ev.proposal a ∧
  (ev.accepted = true → ev.new = some ev.cur)

theorem good_of_step {score : Nat → Array α → Option α} {c : Cfg α} {loop : Nat} {st : OptSt α}
    {d : Nat × α × α} {st' : OptSt α} {ev : Ev α} (s : Step score c loop st d st' ev) :
    Good (st.hs[d.1]'s.idx_lt).addr ev := by
  refine ⟨?_, ?_, ?_⟩
  · rcases s.verdict with ⟨hacc, -, hheap, -⟩ | ⟨hacc, -, hheap, -⟩
    · exact .inl ⟨hacc, s.after.trans hheap⟩
    · exact .inr ⟨hacc, s.after.trans (hheap.trans s.before.symm)⟩
  · rw [s.before, s.proposal]
    exact set_differs _ _ _
  · rcases s.verdict with ⟨-, hs, -⟩ | ⟨hacc, -⟩
    · exact fun _ => s.cur ▸ acceptScore_eq_some hs
    · exact fun h => absurd (hacc.symm.trans h) Bool.false_ne_true

/-- C06 for one step, about `stepOnce` itself: the heap afterwards is exactly the proposal
(accepted) or exactly the heap before the proposal (rejected); the proposal differs from the heap
before in at most the chosen cell. -/
theorem step_effect (score : Nat → Array α → Option α) (c : Cfg α) (loop : Nat) (st : OptSt α)
    (d : Nat × α × α) (st' : OptSt α) (ev : Ev α)
    (h : stepOnce score c loop st d = .ok (st', ev)) :
    ev.before = st.heap ∧ st'.heap = ev.after ∧
    ((ev.accepted = true ∧ ev.after = ev.proposal) ∨ (ev.accepted = false ∧ ev.after = ev.before)) ∧
    (∃ hd, st.hs[d.1]? = some hd ∧ DiffersAtMostAt ev.before ev.proposal hd.addr) :=
  have s := stepOnce_spec h
  ⟨s.before, s.after.symm, (good_of_step s).1, _, Array.getElem?_eq_getElem s.idx_lt,
    (good_of_step s).2.1⟩

theorem lastAfter_nil (h0 : Array α) : lastAfter h0 [] = h0 := rfl

theorem lastAfter_snoc (h0 : Array α) (l : List (Ev α)) (e : Ev α) :
    lastAfter h0 (l ++ [e]) = e.after := by
  simp [lastAfter]

theorem lastAfter_cons (h0 : Array α) (x : Ev α) (l : List (Ev α)) :
    lastAfter h0 (x :: l) = lastAfter x.after l := by
  unfold lastAfter
  rw [List.getLast?_cons]
  cases l.getLast? <;> rfl

theorem chained_snoc (h0 : Array α) (l : List (Ev α)) (e : Ev α)
    (hc : Chained h0 l) (he : e.before = lastAfter h0 l) : Chained h0 (l ++ [e]) := by
  induction l generalizing h0 with
  | nil => exact ⟨he, trivial⟩
  | cons x l ih =>
    obtain ⟨h1, h2⟩ := hc
    rw [lastAfter_cons] at he
    exact ⟨h1, ih _ h2 he⟩

theorem lastAccepted_snoc (h0 : Array α) (l : List (Ev α)) (e : Ev α) :
    lastAccepted h0 (l ++ [e]) = if e.accepted = true then e.proposal else lastAccepted h0 l := by
  cases hacc : e.accepted <;> simp [lastAccepted, List.filter_append, hacc]

theorem lastAcceptedScore_snoc (s0 : α) (l : List (Ev α)) (e : Ev α) :
    lastAcceptedScore s0 (l ++ [e]) = if e.accepted = true then e.cur else lastAcceptedScore s0 l := by
  cases hacc : e.accepted <;> simp [lastAcceptedScore, List.filter_append, hacc]

def Inv (heap0 : Array α) (s0 : α) (heap : Array α) (cur : α) (log : List (Ev α)) : Prop :=
  Chained heap0 log ∧ heap = lastAfter heap0 log ∧ heap = lastAccepted heap0 log ∧
  cur = lastAcceptedScore s0 log ∧ ∀ ev ∈ log, ∃ a, Good a ev

theorem inv_step {score : Nat → Array α → Option α} {c : Cfg α} {heap0 : Array α} {s0 : α}
    {loop : Nat} {st : OptSt α} {d : Nat × α × α} {st' : OptSt α} {ev : Ev α} {log : List (Ev α)}
    (hinv : Inv heap0 s0 st.heap st.cur log) (s : Step score c loop st d st' ev) :
    Inv heap0 s0 st'.heap st'.cur (log ++ [ev]) := by
  obtain ⟨hch, hla, hlacc, hcur, hgood⟩ := hinv
  have hev : ∃ a, Good a ev := ⟨_, good_of_step s⟩
  simp only [Inv, lastAfter_snoc, lastAccepted_snoc, lastAcceptedScore_snoc, List.forall_mem_append,
    List.forall_mem_singleton]
  refine ⟨chained_snoc _ _ _ hch (s.before.trans hla), s.after.symm, ?_⟩
  rcases s.verdict with ⟨hacc, -, hheap, -⟩ | ⟨hacc, -, hheap, hc, -⟩
  · rw [if_pos hacc, if_pos hacc]
    exact ⟨hheap, s.cur.symm, hgood, hev⟩
  · rw [if_neg (hacc ▸ Bool.false_ne_true), if_neg (hacc ▸ Bool.false_ne_true)]
    exact ⟨hheap.trans hlacc, hc.trans hcur, hgood, hev⟩

theorem inv_run (score : Nat → Array α → Option α) (c : Cfg α)
    (next : Nat → G → (Nat × α × α) × G) (g : G) (heap : Array α) (hs : Array (Handle α))
    (r : Run α) (h : optimise score c next g heap hs = .ok r) :
    ∃ s0, score 0 heap = some s0 ∧ Inv heap s0 r.heap r.cur r.events := by
  obtain ⟨s0, st', evs, b, hs0, -, -, hrun, -, rfl⟩ := optimise_eq_ok_iff.1 h
  obtain ⟨-, hinv⟩ := runOuter_inv (P := fun _ st log => Inv heap s0 st.heap st.cur log) inv_step id
    (fun _ => id) hrun ⟨trivial, rfl, rfl, rfl, nofun⟩
  exact ⟨s0, hs0, hinv⟩

/-- C06, every step of every run: accepted ⇒ proposal kept, rejected ⇒ bit-for-bit restored; at most
one parameter differs between a proposal and the state it was derived from; events chain. -/
theorem C06_every_step (score : Nat → Array α → Option α) (c : Cfg α)
    (next : Nat → G → (Nat × α × α) × G) (g : G) (heap : Array α) (hs : Array (Handle α))
    (r : Run α) (h : optimise score c next g heap hs = .ok r) :
    Chained heap r.events ∧
    ∀ ev ∈ r.events,
      ((ev.accepted = true ∧ ev.after = ev.proposal) ∨ (ev.accepted = false ∧ ev.after = ev.before)) ∧
      (∃ a, DiffersAtMostAt ev.before ev.proposal a) := by
  obtain ⟨s0, -, hch, -, -, -, hgood⟩ := inv_run score c next g heap hs r h
  refine ⟨hch, fun ev hev => ?_⟩
  obtain ⟨a, hafter, hdiff, -⟩ := hgood ev hev
  exact ⟨hafter, a, hdiff⟩

/-- C06: the result is the last accepted state (the input if nothing was accepted), also on the
convergence early exit; and the score the optimiser tracks for it is the score that proposal got. -/
theorem C06_result (score : Nat → Array α → Option α) (c : Cfg α)
    (next : Nat → G → (Nat × α × α) × G) (g : G) (heap : Array α) (hs : Array (Handle α))
    (r : Run α) (h : optimise score c next g heap hs = .ok r) :
    r.heap = lastAfter heap r.events ∧ r.heap = lastAccepted heap r.events ∧
    (∃ s0, score 0 heap = some s0 ∧ r.cur = lastAcceptedScore s0 r.events) ∧
    (∀ ev ∈ r.events, ev.accepted = true → ev.new = some ev.cur) := by
  obtain ⟨s0, hs0, -, h1, h2, h3, hgood⟩ := inv_run score c next g heap hs r h
  exact ⟨h1, h2, ⟨s0, hs0, h3⟩, fun ev hev => (hgood ev hev).elim fun _ h => h.2.2⟩

/-- for a score that is a function of the parameters only (every real crystal state), the tracked
score is the score of the returned state -/
theorem C06_tracked_score_is_score_of_result (score : Nat → Array α → Option α)
    (hpure : ∀ k v, score k v = score 0 v) (c : Cfg α)
    (next : Nat → G → (Nat × α × α) × G) (g : G) (heap : Array α) (hs : Array (Handle α))
    (r : Run α) (h : optimise score c next g heap hs = .ok r) :
    score 0 r.heap = some r.cur :=
  optimise_score_cur hpure h

end PV.Proofs.C06
