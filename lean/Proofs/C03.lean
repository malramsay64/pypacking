/-
  Proofs/C03.lean — C03: the Lennard-Jones score is minus the crystal's lattice energy per molecule.
  Carrier ℝ.

  `Crystal.scoreLJ` is the model of `PotentialState::score` (src/state/potential.rs, after the `fix:`
  that weights pairs with a periodic image by ½), tied to the crate by the translation tie
  Proofs/TiePotential.lean and the bit-exact `state`/`optc` families.  Proved here:
    * the score is `−(1/N)·[ Σ_{i<j} E(i,j) + w·Σ_i Σ_j Σ_{0≠T∈box} E(i, j+T) ]` with the generated
      weight `w = ½` and shell count `3`;
    * for a symmetric pair energy (every shape whose particles share σ, ε, cutoff — C13) this is
      `−(1/N)·½·Σ_i Σ_{(j,T)≠(i,0), T∈box} E(i, j+T)`: every pair of distinct molecule images with
      one member in the home cell is counted once per molecule — the lattice energy per molecule,
      independent of whether a neighbour is reached as an in-cell pair or through a periodic image;
    * for a cut potential the box of 3 shells exhausts the interaction whenever
      `3·min(a,b)·sin t ≥ cutoff + 2·(particle offset)`: every omitted term is exactly 0
      (otherwise: known finding F7, images beyond shell 3 within the cutoff).
  Partial: for the uncut potential the truncated sum is what is proved (convergence tail not bounded
  here); invariance under re-description of the crystal is covered by the lattice-sum oracle.
-/
import Proofs.C13
import Proofs.C01
import Lemmas.C03Sums
import Mathlib.Algebra.BigOperators.Ring.List
import Mathlib.Tactic.Ring
import Mathlib.Tactic.Linarith
import Mathlib.Tactic.NormNum

namespace PV.Proofs.C03
open PV.C03Sums PV.C01Geom

/-- declared constants, regenerated from src/state/potential.rs on every run -/
theorem declared_lj_constants :
    Generated.ljShells = 3 ∧ Generated.ljPeriodicWeight = .lit 1 2 ∧
    Generated.ljInitSize = .mul (.mul (.lit 2 1) (.var "enclosing_radius")) (.var "num_shapes") ∧
    Generated.ljUnrecognised = [] := by
  decide

noncomputable def E (s : Crystal ℝ) (t u : Mat3 ℝ) : ℝ :=
  (s.shape.transform t).energy (s.shape.transform u)

noncomputable def inCell (s : Crystal ℝ) : ℝ :=
  ((orderedPairs s.cartPositions).map fun ab => E s ab.1 ab.2).sum

/-- every ordered pair (copy, image of copy) over the non-zero lattice vectors of the box of `k`
shells -/
noncomputable def periodic (s : Crystal ℝ) (k : Int) : ℝ :=
  (s.cartPositions.map fun t1 =>
    (s.relPositions.map fun p =>
      ((s.cell.periodicImages p k false).map fun t2 => E s t1 t2).sum).sum).sum

theorem w_eval : (Generated.ljPeriodicWeight.eval noEnv : ℝ) = 1 / 2 := by
  simp [Generated.ljPeriodicWeight, BExpr.eval]

/-- C03, the score as `PotentialState::score` computes it:
`−(in-cell + ½·periodic over 3 shells) / N` -/
theorem score_unfold (s : Crystal ℝ) :
    s.scoreLJ = some (-(inCell s + (1/2) * periodic s 3) / (s.totalShapes : ℝ)) := by
  unfold Crystal.scoreLJ
  simp only [foldl_acc_add, w_eval, Generated.ljShells]
  simp only [inCell, periodic, E, sc0, Nat.cast_zero, zero_add, orderedPairs_map, List.map_map,
    List.sum_map_mul_left, Function.comp_def, Prod.map]

/-- what makes the home copy its own zero-translate:
`toCartesianIsometry p = toCartesianTranslate p 0 0` -/
def AffineRel (s : Crystal ℝ) : Prop :=
  ∀ p ∈ s.relPositions, p.m20 = 0 ∧ p.m21 = 0 ∧ (p.m22 = 0 ∨ p.m22 = 1)

/-- interaction of copy `i` with every other molecule image of the box of `k` shells -/
noncomputable def envEnergy (s : Crystal ℝ) (k : Int) (i : Nat) : ℝ :=
  ((List.range s.relPositions.length).map fun j =>
    ((imageIndices k true).map fun nm =>
      if j = i ∧ nm = (0, 0) then 0
      else E s (s.cell.toCartesianTranslate (s.relPositions.getD i Mat3.identity) 0 0)
               (s.cell.toCartesianTranslate (s.relPositions.getD j Mat3.identity) nm.1 nm.2)).sum).sum

/-- home–home energy -/
noncomputable def G (s : Crystal ℝ) (p q : Mat3 ℝ) : ℝ :=
  E s (s.cell.toCartesianTranslate p 0 0) (s.cell.toCartesianTranslate q 0 0)

/-- home–images energy over the non-zero lattice vectors of the box -/
noncomputable def H (s : Crystal ℝ) (k : Int) (p q : Mat3 ℝ) : ℝ :=
  ((imageIndices k false).map fun nm =>
    E s (s.cell.toCartesianTranslate p 0 0) (s.cell.toCartesianTranslate q nm.1 nm.2)).sum

theorem envEnergy_split (s : Crystal ℝ) (k : Int) (hk : 0 ≤ k) (i : Nat) :
    envEnergy s k i = ((List.range s.relPositions.length).map fun j =>
      (if j = i then 0 else G s (s.relPositions.getD i Mat3.identity) (s.relPositions.getD j Mat3.identity))
        + H s k (s.relPositions.getD i Mat3.identity) (s.relPositions.getD j Mat3.identity)).sum := by
  refine congrArg List.sum (List.map_congr_left fun j _ => ?_)
  rw [sum_imageIndices_true k hk]
  simp only [and_true, G, H]
  refine congrArg (_ + List.sum ·) (List.map_congr_left ?_)
  rintro ⟨n, m⟩ hnm
  -- the untranslated copy is not among the index pairs
  have h0 := ((C14.mem_imageIndices k false n m).mp hnm).2.2 rfl
  rw [if_neg fun h => h0 (Prod.mk.inj h.2)]

theorem inCell_eq (s : Crystal ℝ) (haff : AffineRel s) :
    inCell s = ((orderedPairs s.relPositions).map fun ab => G s ab.1 ab.2).sum := by
  unfold inCell
  rw [C01.cartPositions_eq s haff, orderedPairs_map, List.map_map]
  rfl

theorem periodic_eq (s : Crystal ℝ) (haff : AffineRel s) (k : Int) :
    periodic s k = (s.relPositions.map fun p => (s.relPositions.map fun q => H s k p q).sum).sum := by
  unfold periodic
  rw [C01.cartPositions_eq s haff, List.map_map]
  simp only [Cell.periodicImages, List.map_map, Function.comp_def, H, C01.img]

/-- C03, each pair once per molecule: for a symmetric pair energy the score is minus one half of
the mean interaction of a molecule with all other images in the box -/
theorem score_per_molecule (s : Crystal ℝ) (haff : AffineRel s)
    (hsym : ∀ t u, E s t u = E s u t) :
    s.scoreLJ = some (-((1/2) * ((List.range s.relPositions.length).map (envEnergy s 3)).sum)
                        / (s.totalShapes : ℝ)) := by
  have hG : ∀ p q, G s p q = G s q p := fun p q => hsym _ _
  -- summed over the copies, the home–home terms count every unordered pair twice (`offdiag_sum`),
  -- the home–image terms every ordered pair once
  have key : ((List.range s.relPositions.length).map fun i => envEnergy s 3 i).sum =
      2 * inCell s + periodic s 3 := by
    rw [inCell_eq s haff, periodic_eq s haff, ← offdiag_sum (G s) hG Mat3.identity]
    simp only [envEnergy_split s 3 (by norm_num), List.sum_map_add]
    rw [← map_range_getD s.relPositions Mat3.identity
      (fun p => (s.relPositions.map fun q => H s 3 p q).sum), add_right_inj]
    refine congrArg List.sum (List.map_congr_left fun i _ => ?_)
    rw [← map_range_getD s.relPositions Mat3.identity
      (fun q => H s 3 (s.relPositions.getD i Mat3.identity) q)]
  rw [score_unfold, key]
  congr 2
  ring

theorem totalShapes_eq_positions (s : Crystal ℝ) : s.totalShapes = s.relPositions.length := by
  rw [Crystal.totalShapes, Crystal.relPositions, List.length_flatMap, List.sum_eq_foldl,
    List.foldl_map]
  simp only [Site.multiplicity, Site.positions, List.length_map]

theorem energy_symm_like (items : List (LJ2 ℝ)) (sg ep : ℝ) (co : Option ℝ)
    (h : ∀ a ∈ items, a.sigma = sg ∧ a.epsilon = ep ∧ a.cutoff = co) (t u : Mat3 ℝ) :
    ((Shape.lj items).transform t).energy ((Shape.lj items).transform u) =
      ((Shape.lj items).transform u).energy ((Shape.lj items).transform t) := by
  simp only [Shape.transform, C13.shape_energy_sum, List.map_map, Function.comp_def]
  rw [sum_map_sum_map]
  refine congrArg List.sum (List.map_congr_left fun b hb => ?_)
  refine congrArg List.sum (List.map_congr_left fun a ha => ?_)
  obtain ⟨a1, a2, a3⟩ := h a ha
  obtain ⟨b1, b2, b3⟩ := h b hb
  exact C13.lj_symm_partial _ _ (a1.trans b1.symm) (a2.trans b2.symm) (a3.trans b3.symm)

theorem circle_symm (s : Crystal ℝ) (h : s.shape = Shape.ljCircle) : ∀ t u, E s t u = E s u t := by
  intro t u
  unfold E
  rw [h]
  exact energy_symm_like _ sc1 sc1 none (by simp) t u

def CutWithin (sh : Shape ℝ) (c ρ : ℝ) : Prop :=
  match sh with
  | .lj items => ∀ a ∈ items, a.cutoff = some c ∧ a.x ^ 2 + a.y ^ 2 ≤ ρ ^ 2
  | _ => False

theorem far_pairs_vanish (sh : Shape ℝ) (c ρ : ℝ) (hc : 0 ≤ c) (hρ : 0 ≤ ρ) (h : CutWithin sh c ρ)
    (t u : Mat3 ℝ) (ht : C12.Affine t ∧ C12.Orthogonal t) (hu : C12.Affine u ∧ C12.Orthogonal u)
    (hfar : (c + 2 * ρ) ^ 2 ≤ C01.dist2 t u) :
    (sh.transform t).energy (sh.transform u) = 0 := by
  cases sh with
  | line _ => exact h.elim
  | mol _ => exact h.elim
  | lj items =>
    simp only [CutWithin] at h
    simp only [Shape.transform, C13.shape_energy_sum, List.map_map, Function.comp_def]
    refine List.sum_eq_zero (List.forall_mem_map.mpr fun a ha => ?_)
    refine List.sum_eq_zero (List.forall_mem_map.mpr fun b hb => ?_)
    obtain ⟨hca, hra⟩ := h a ha
    obtain ⟨_, hrb⟩ := h b hb
    apply C13.lj_cut_outside _ _ c (show (a.transform t).cutoff = some c from hca)
    rw [← nrm_le_iff hρ] at hra hrb
    rw [C01.dist2_eq ht.1 hu.1, ← le_nrm_iff (by linarith)] at hfar
    have key := C12.apply_far t u ht.1 ht.2 hu.1 hu.2 ⟨a.x, a.y⟩ ⟨b.x, b.y⟩
    rw [← sq, C13.r2, ← le_nrm_iff hc]
    show c ≤ nrm ((t.apply ⟨a.x, a.y⟩).x - (u.apply ⟨b.x, b.y⟩).x)
      ((t.apply ⟨a.x, a.y⟩).y - (u.apply ⟨b.x, b.y⟩).y)
    linarith

/-- C03, the box exhausts a cut potential: with wrapped orthogonal placements (as `Site.positions`
produces them, C15/C01) and `k·min(a,b)·sin t ≥ c + 2ρ`, the periodic sum over any larger box
`k' ≥ k` equals the sum over the box of `k` shells: nothing within the cutoff is left out, however
far the box is extended -/
theorem box_exhausts_cutoff (s : Crystal ℝ) (c ρ : ℝ) (hc : 0 ≤ c) (hρ : 0 ≤ ρ)
    (h : CutWithin s.shape c ρ)
    (hcell : 0 < s.cell.length ∧ 0 < s.cell.ratio ∧ 0 < Real.sin s.cell.angle)
    (hrel : ∀ p ∈ s.relPositions,
      (p.m20 = 0 ∧ p.m21 = 0 ∧ (p.m22 = 0 ∨ p.m22 = 1)) ∧
      (p.m00 * p.m00 + p.m10 * p.m10 = 1 ∧ p.m01 * p.m01 + p.m11 * p.m11 = 1 ∧ p.m00 * p.m01 + p.m10 * p.m11 = 0) ∧
      (-(1/2) ≤ p.m02 ∧ p.m02 < 1/2 ∧ -(1/2) ≤ p.m12 ∧ p.m12 < 1/2))
    (k k' : Int) (hk : 0 ≤ k) (hkk : k ≤ k')
    (hbig : c + 2 * ρ ≤ (k : ℝ) * (min s.cell.a s.cell.b * Real.sin s.cell.angle)) :
    periodic s k' = periodic s k := by
  have haff : AffineRel s := fun p hp => (hrel p hp).1
  rw [periodic_eq s haff, periodic_eq s haff]
  refine congrArg List.sum (List.map_congr_left fun p hp => ?_)
  refine congrArg List.sum (List.map_congr_left fun q hq => ?_)
  have hP : C01.Placed p := hrel p hp
  have hQ : C01.Placed q := hrel q hq
  -- an image outside the box of `k` shells is beyond the cutoff (`C01.outside_box_far`)
  refine sum_imageIndices_mono k k' hkk _ fun n m hnm => ?_
  exact far_pairs_vanish s.shape c ρ hc hρ h _ _ (hP.img _ 0 0) (hQ.img _ n m)
    (C01.outside_box_far s.cell hcell _ (by linarith) k hk hbig p q hP hQ n m hnm).le

end PV.Proofs.C03
