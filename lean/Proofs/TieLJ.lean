/-
  Proofs/TieLJ.lean — translator tie for `LJ2::energy` (src/shape/components/lj2.rs → Generated/FnsLJ.lean): over
  the reals it is the model's `LJ2.energy` (C03, C13).
-/
import Lemmas.TieTactics
import Generated.FnsLJ

namespace PV.Proofs.Tie
open PV

theorem declared_translated_lj : Gen.fnsLJUntranslated = [] := by decide

@[tie]
theorem lj2_energy_tie (a b : LJ2 ℝ) : Gen.lj2_energy a b = a.energy b := by
  unfold Gen.lj2_energy LJ2.energy
  cases a.cutoff <;> tie_close

end PV.Proofs.Tie
