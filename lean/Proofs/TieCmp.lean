/-
  Proofs/TieCmp.lean — translator tie for the ordering of states (`impl PartialEq / PartialOrd / Ord
  for PackedState / PotentialState`, src/state/{packed,potential}.rs → Generated/FnsPacked.lean,
  Generated/FnsPotential.lean).  The CLI keeps the best replica with `reduce_with(cmp::max)`; the
  model's `maxRight` (Model/Cli.lean, the subject of the C09 / C10 theorems) is `std::cmp::max` for
  the regenerated `cmp`: states are ordered by their score, the right operand wins ties, comparing an
  undefined score panics.
-/
import Proofs.TiePacked
import Proofs.TiePotential
import Model.Cli

namespace PV.Proofs.TieCmp
open PV

theorem packed_partial_cmp_tie (a b : Crystal ℝ) :
    Gen.packed_partial_cmp a b = Crystal.cmpBy Gen.packed_score a b := by
  unfold Gen.packed_partial_cmp Crystal.cmpBy
  cases Gen.packed_score a <;> cases Gen.packed_score b <;> rfl

theorem packed_cmp_tie (a b : Crystal ℝ) :
    Gen.packed_cmp a b = Crystal.cmpBy Gen.packed_score a b := by
  unfold Gen.packed_cmp
  exact packed_partial_cmp_tie a b

theorem potential_partial_cmp_tie (a b : Crystal ℝ) :
    Gen.potential_partial_cmp a b = Crystal.cmpBy Gen.potential_score a b := by
  unfold Gen.potential_partial_cmp Crystal.cmpBy
  cases Gen.potential_score a <;> cases Gen.potential_score b <;> rfl

theorem potential_cmp_tie (a b : Crystal ℝ) :
    Gen.potential_cmp a b = Crystal.cmpBy Gen.potential_score a b := by
  unfold Gen.potential_cmp
  exact potential_partial_cmp_tie a b

theorem packed_eq_tie (a b : Crystal ℝ) :
    Gen.packed_eq a b = (match Gen.packed_score a, Gen.packed_score b with
      | some s, some o => s == o | _, _ => false) := by
  unfold Gen.packed_eq
  cases Gen.packed_score a <;> cases Gen.packed_score b <;> rfl

theorem potential_eq_tie (a b : Crystal ℝ) :
    Gen.potential_eq a b = (match Gen.potential_score a, Gen.potential_score b with
      | some s, some o => s == o | _, _ => false) := by
  unfold Gen.potential_eq
  cases Gen.potential_score a <;> cases Gen.potential_score b <;> rfl

theorem maxRight_eq_maxByCmp (sc : Crystal ℝ → Option ℝ) (a b : Crystal ℝ) :
    maxRight a b sc = maxByCmp (Crystal.cmpBy sc) a b := by
  unfold maxRight maxByCmp Crystal.cmpBy fPartialCmp
  cases sc a <;> cases sc b <;> simp
  rename_i x y
  rcases lt_trichotomy x y with h | h | h
  · simp [h, not_lt.mpr h.le]
  · subst h
    simp
  · simp [h, not_lt.mpr h.le, h.ne']

theorem maxRight_packed (a b : Crystal ℝ) :
    maxRight a b Gen.packed_score = maxByCmp Gen.packed_cmp a b := by
  rw [maxRight_eq_maxByCmp]
  unfold maxByCmp
  rw [packed_cmp_tie]

theorem maxRight_potential (a b : Crystal ℝ) :
    maxRight a b Gen.potential_score = maxByCmp Gen.potential_cmp a b := by
  rw [maxRight_eq_maxByCmp]
  unfold maxByCmp
  rw [potential_cmp_tie]

end PV.Proofs.TieCmp
