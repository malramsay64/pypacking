/-
  Proofs/C18.lean — C18: the temperature follows the requested annealing schedule.  Carrier ℝ.
-/
import Lemmas.RealCarrier
import Lemmas.Optimiser
import Mathlib.Tactic.Positivity

namespace PV.Proofs.C18
open PV

variable {G : Type}

/-- the temperature is constant within an inner loop and multiplied by one cooling factor between
loops: every step of (0-based) loop `l` runs at `kt_start · factor^l` -/
theorem kt_in_loop (score : Nat → Array ℝ → Option ℝ) (c : Cfg ℝ)
    (next : Nat → G → (Nat × ℝ × ℝ) × G) (g : G) (heap : Array ℝ) (hs : Array (Handle ℝ))
    (r : Run ℝ) (h : optimise score c next g heap hs = .ok r) :
    ∀ ev ∈ r.events, ev.kt = c.ktStart * c.ktRatio ^ ev.loop := by
  obtain ⟨s0, st', evs, b, -, -, -, hrun, -, rfl⟩ := optimise_eq_ok_iff.1 h
  obtain ⟨-, hev⟩ := runOuter_events (I := fun loop st => st.kt = c.ktStart * c.ktRatio ^ loop)
    (fun hI s => s.st_kt.trans hI) id
    (fun _ hI => show _ * c.ktRatio = _ by rw [hI, pow_succ, mul_assoc]) hrun (by simp [initSt])
  intro ev hmem
  obtain ⟨loop, st, g, st1, hI, s⟩ := (hev ev hmem).resolve_left List.not_mem_nil
  rw [s.kt, s.loop, hI]

/-- loops are visited in order, `inner` steps each -/
theorem loops_in_order (score : Nat → Array ℝ → Option ℝ) (c : Cfg ℝ)
    (next : Nat → G → (Nat × ℝ × ℝ) × G) (g : G) (heap : Array ℝ) (hs : Array (Handle ℝ))
    (r : Run ℝ) (h : optimise score c next g heap hs = .ok r) :
    ∀ k (hk : k < r.events.length), (r.events[k]'hk).loop = k / c.inner := by
  obtain ⟨-, m, -, -, -, -, -, hloops⟩ := optimise_layout h
  intro k hk
  have := congrArg (·[k]?) hloops
  simpa [hk] using this

/-- with a ratio the factor is `1 - kt_ratio` -/
theorem factor_ratio (b : Builder ℝ) (c : Cfg ℝ) (ρ : ℝ) (hr : b.ktRatio = some ρ)
    (h : b.build = .ok c) : c.ktRatio = 1 - ρ := by
  obtain ⟨seed, -, rfl⟩ := Builder.build_eq_ok_iff.1 h
  simp [hr]

def loopsOf (b : Builder ℝ) : Nat := b.steps / (Nat.max (Nat.min b.inner b.steps) 1)

theorem build_finish (b : Builder ℝ) (c : Cfg ℝ) (φ : ℝ) (hr : b.ktRatio = none)
    (hf : b.ktFinish = some φ) (hs : 0 < b.ktStart) (h : b.build = .ok c) :
    c.ktStart = b.ktStart ∧
    c.ktRatio = (φ / b.ktStart) ^ ((1 : ℝ) / ((Nat.max (loopsOf b) 1 : ℕ) : ℝ)) ∧
    c.steps = b.steps ∧ c.inner = Nat.max (Nat.min b.inner b.steps) 1 := by
  obtain ⟨seed, -, rfl⟩ := Builder.build_eq_ok_iff.1 h
  have hs' : (zero : ℝ) < b.ktStart := by rwa [zero, Nat.cast_zero]
  refine ⟨rfl, ?_, rfl, rfl⟩
  simp only [hr, hf, hs', not_true, if_false, powf_real, Nat.cast_one, loopsOf]

/-- without a ratio the factor takes `kt_start` to `kt_finish` over the `L = steps / inner_steps ≥ 1`
loops of the run -/
theorem factor_finish (b : Builder ℝ) (c : Cfg ℝ) (φ : ℝ) (hr : b.ktRatio = none)
    (hf : b.ktFinish = some φ) (hs : 0 < b.ktStart) (hφ : 0 < φ) (hL : 1 ≤ loopsOf b)
    (h : b.build = .ok c) :
    c.ktStart * c.ktRatio ^ (loopsOf b) = φ ∧ c.steps / c.inner = loopsOf b := by
  obtain ⟨h1, h2, h3, h4⟩ := build_finish b c φ hr hf hs h
  have hmax : Nat.max (loopsOf b) 1 = loopsOf b := Nat.max_eq_left hL
  have hLpos : (0 : ℝ) < (loopsOf b : ℝ) := by exact_mod_cast hL
  refine ⟨?_, ?_⟩
  · rw [h1, h2, hmax, ← Real.rpow_natCast, ← Real.rpow_mul (le_of_lt (div_pos hφ hs)),
      one_div, inv_mul_cancel₀ (ne_of_gt hLpos), Real.rpow_one, mul_div_cancel₀ _ (ne_of_gt hs)]
  · rw [h3, h4]
    rfl

/-- consequently the last loop of the run is governed by a temperature within one cooling step of
`kt_finish`: it runs at `kt_finish / factor`, and `factor ≤ 1` when cooling (`kt_finish ≤ kt_start`) -/
theorem last_loop_temperature (b : Builder ℝ) (c : Cfg ℝ) (φ : ℝ) (hr : b.ktRatio = none)
    (hf : b.ktFinish = some φ) (hs : 0 < b.ktStart) (hφ : 0 < φ) (hL : 1 ≤ loopsOf b)
    (h : b.build = .ok c) :
    0 < c.ktRatio ∧ c.ktStart * c.ktRatio ^ (loopsOf b - 1) = φ / c.ktRatio ∧
    (φ ≤ b.ktStart → c.ktRatio ≤ 1) := by
  obtain ⟨h1, h2, h3, h4⟩ := build_finish b c φ hr hf hs h
  have hfin := (factor_finish b c φ hr hf hs hφ hL h).1
  have hbase : 0 < φ / b.ktStart := div_pos hφ hs
  have hpos : 0 < c.ktRatio := by
    rw [h2]
    exact Real.rpow_pos_of_pos hbase _
  refine ⟨hpos, ?_, ?_⟩
  · rw [eq_div_iff (ne_of_gt hpos), mul_assoc, ← pow_succ, Nat.sub_add_cancel hL]
    exact hfin
  · intro hle
    rw [h2]
    apply Real.rpow_le_one (le_of_lt hbase)
    · rw [div_le_one hs]
      exact hle
    · positivity

/-- at `kt_start = 0` the factor derived from `kt_finish` is 1 (that every step of the run is then at
temperature 0, whichever factor is used, is `C05.kt_stays_zero`) -/
theorem zero_stays_zero (b : Builder ℝ) (c : Cfg ℝ) (hs : b.ktStart = 0) (h : b.build = .ok c) :
    c.ktStart = 0 ∧ (b.ktRatio = none → b.ktFinish ≠ none → c.ktRatio = 1) := by
  obtain ⟨seed, -, rfl⟩ := Builder.build_eq_ok_iff.1 h
  refine ⟨hs, fun hr hf => ?_⟩
  obtain ⟨f, hf⟩ := Option.ne_none_iff_exists'.1 hf
  simp [hr, hf, hs, zero]

end PV.Proofs.C18
