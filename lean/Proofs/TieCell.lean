/-
  Proofs/TieCell.lean — translator tie for `Cell2::{a, b, angle, area, to_cartesian}` (src/cell.rs →
  Generated/FnsCell.lean): over the reals they are the model's `Cell.*` (C02, C14).
-/
import Lemmas.TieTactics
import Generated.FnsCell

namespace PV.Proofs.Tie
open PV

theorem declared_translated_cell : Gen.fnsCellUntranslated = [] := by decide

@[tie]
theorem cell_a_tie (c : Cell ℝ) : Gen.cell_a c = c.a := by
  unfold Gen.cell_a Cell.a
  tie_close

@[tie]
theorem cell_b_tie (c : Cell ℝ) : Gen.cell_b c = c.b := by
  unfold Gen.cell_b Cell.b
  tie_close

@[tie]
theorem cell_angle_tie (c : Cell ℝ) : Gen.cell_angle c = c.angle := by
  unfold Gen.cell_angle
  tie_close

@[tie]
theorem cell_area_tie (c : Cell ℝ) : Gen.cell_area c = c.area := by
  unfold Gen.cell_area Cell.area
  tie_close

@[tie]
theorem cell_to_cartesian_tie (c : Cell ℝ) (x y : ℝ) : Gen.cell_to_cartesian c x y = c.toCartesian x y := by
  unfold Gen.cell_to_cartesian Cell.toCartesian
  tie_close

end PV.Proofs.Tie
