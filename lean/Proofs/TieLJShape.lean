/-
  Proofs/TieLJShape.lean — translator tie for the shape-level functions (lists of components) of
  `LJShape2`: `energy`, `enclosing_radius` (src/shape/lj_shape.rs).  The iterator chains of the source
  (`iproduct!`, `map`, `sum`, `fold`) are translated to list functions; the regenerated definitions are,
  over the reals, the model's `Shape.energy / enclosingRadius`.
-/
import Lemmas.ListSums
import Proofs.TieLJ
import Generated.FnsLJShape

namespace PV.Proofs.Tie
open PV

theorem declared_translated_ljshape : Gen.fnsLJShapeUntranslated = [] := by decide

/-- `iproduct!(..).map(..).sum()`, nested `for` loops with `total += ..` and `fold`s all normalise to the same sums -/
@[tie]
theorem ljshape_energy_tie (xs ys : List (LJ2 ℝ)) :
    Gen.ljshape_energy xs ys = (Shape.lj xs).energy (Shape.lj ys) := by
  unfold Gen.ljshape_energy Shape.energy
  tie_close

@[tie]
theorem ljshape_radius_tie (xs : List (LJ2 ℝ)) :
    Gen.ljshape_enclosing_radius xs = (Shape.lj xs).enclosingRadius := by
  unfold Gen.ljshape_enclosing_radius Shape.enclosingRadius
  tie_close

end PV.Proofs.Tie
