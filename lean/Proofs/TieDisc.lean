/-
  Proofs/TieDisc.lean — translator tie for `Atom2::{intersects, area}` and `MolecularShape2::{overlap_area,
  circle_overlap}` (src/shape/components/atom2.rs, src/shape/molecular_shape2.rs → Generated/FnsDisc.lean): over the
  reals they are the model's `Atom2.intersects`, `overlapArea`, `circleOverlap` (C01, C02, C12).
-/
import Lemmas.TieTactics
import Generated.FnsDisc

namespace PV.Proofs.Tie
open PV

theorem declared_translated_disc : Gen.fnsDiscUntranslated = [] := by decide

@[tie]
theorem atom2_intersects_tie (a b : Atom2 ℝ) : Gen.atom2_intersects a b = a.intersects b := by
  unfold Gen.atom2_intersects Atom2.intersects
  tie_close

@[tie]
theorem atom2_area_tie (a : Atom2 ℝ) : Gen.atom2_area a = Real.pi * a.r ^ 2 := by
  unfold Gen.atom2_area
  tie_close

@[tie]
theorem overlap_area_tie (r d : ℝ) : Gen.overlap_area r d = overlapArea r d := by
  unfold Gen.overlap_area overlapArea
  tie_close

@[tie]
theorem circle_overlap_tie (a b : Atom2 ℝ) : Gen.circle_overlap a b = circleOverlap a b := by
  unfold Gen.circle_overlap circleOverlap
  tie_close

end PV.Proofs.Tie
