/-
  Proofs/C02Circles.lean — the packing-fraction bound of Proofs/C02Tiling.lean instantiated for the crate's
  `circle` shape: no measurability or area hypothesis is left.  For `N` open discs of radius `r` whose lattice
  translates are all pairwise disjoint, `N * (π r²) ≤ |det (A, B)|`: the bound `area * N / cell area ≤ 1` on
  what `PackedState::score` reports for discs.  The statement is about sets in `Fin 2 → ℝ` and a basis `b`;
  that the disjointness is what `C01_discs` concludes for a scored state, and `|det (A, B)|` the model's
  `Cell.area` (`C14.area_eq_abs_cross`), is read off, not a theorem.
-/
import Proofs.C02Tiling
import Proofs.C02LensGeneral
import Mathlib.MeasureTheory.Constructions.Pi
import Mathlib.MeasureTheory.Constructions.BorelSpace.Basic
import Mathlib.Topology.Algebra.Ring.Basic

namespace PV.Proofs.C02Circles
open MeasureTheory Module PV.Proofs.C02Tiling
open scoped Pointwise

def discP (cx cy r : ℝ) : Set Plane := {p | (p 0 - cx) ^ 2 + (p 1 - cy) ^ 2 < r ^ 2}

theorem measurableSet_discP (cx cy r : ℝ) : MeasurableSet (discP cx cy r) :=
  measurableSet_lt (by fun_prop) measurable_const

/-- the disc of the plane `Fin 2 → ℝ` is the disc of `ℝ × ℝ` seen through `finTwoArrow` -/
theorem volume_discP (cx cy r : ℝ) (hr : 0 < r) :
    (volume (discP cx cy r)).toReal = Real.pi * r ^ 2 := by
  have e : discP cx cy r = MeasurableEquiv.finTwoArrow ⁻¹' C02Lens.disc cx cy r := rfl
  rw [e, (volume_preserving_finTwoArrow ℝ).measure_preimage_equiv, C02Lens.volume_disc cx cy r hr,
    ENNReal.toReal_ofReal (by positivity)]

/-- C02 for discs: `N` discs of radius `r > 0` all of whose lattice translates are pairwise disjoint
have total area at most the cell area `|det|`: the packing fraction of a circle packing is at most 1 -/
theorem circle_packing_fraction_le_one (b : Basis (Fin 2) ℝ Plane) (N : ℕ) (cx cy : Fin N → ℝ) (r : ℝ)
    (hr : 0 < r)
    (hdisj : ∀ (i j : Fin N) (x y : lattice b), (i, x) ≠ (j, y) →
      Disjoint (x +ᵥ discP (cx i) (cy i) r) (y +ᵥ discP (cx j) (cy j) r)) :
    (Real.pi * r ^ 2) * (N : ℝ) / |Matrix.det (Matrix.of b)| ≤ 1 :=
  (packing_fraction_le_one b N (fun i => discP (cx i) (cy i) r)
    (fun i => measurableSet_discP (cx i) (cy i) r) (Real.pi * r ^ 2) _
    (fun i => volume_discP (cx i) (cy i) r hr) (ZSpan.volume_real_fundamentalDomain b) hdisj).2.2

end PV.Proofs.C02Circles
