/-
  Proofs/SrcC14.lean — C14 stated about `Cell2::{periodic_images, area}` as translated
  (Generated/FnsLattice.lean, FnsCell.lean), from Proofs/C14 by TieImages, TieCell.
-/
import Proofs.C14
import Proofs.TieImages

namespace PV.Proofs.Source
open PV PV.Proofs.Tie

/-- **C14 about the source**: the translated `periodic_images` are the placement translated by every
`n A + m B` of the index box, each once, orientation unchanged; the translated area is `A × B` -/
theorem C14_source_images (c : Cell ℝ) (t : Mat3 ℝ) (h : C14.Affine t) (k : Int) (zero : Bool) :
    Gen.cell_periodic_images c t k zero = (imageIndices k zero).map fun (nm : Int × Int) =>
      { t with
        m02 := (c.toCartesian t.m02 t.m12).1 + (nm.1 : ℝ) * (C14.vecA c).1 + (nm.2 : ℝ) * (C14.vecB c).1
        m12 := (c.toCartesian t.m02 t.m12).2 + (nm.1 : ℝ) * (C14.vecA c).2 + (nm.2 : ℝ) * (C14.vecB c).2 } := by
  rw [periodic_images_tie]
  exact C14.images_spec c t h k zero

theorem C14_source_area (c : Cell ℝ) :
    Gen.cell_area c = (C14.vecA c).1 * (C14.vecB c).2 - (C14.vecA c).2 * (C14.vecB c).1 := by
  rw [cell_area_tie]
  exact C14.area_eq_cross c

end PV.Proofs.Source
