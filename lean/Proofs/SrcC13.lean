/-
  Proofs/SrcC13.lean — C13 stated about `LJ2::energy` and `LJShape2::energy` as translated
  (Generated/FnsLJ.lean, FnsLJShape.lean), from Proofs/C13 by TieLJ, TieLJShape.
-/
import Proofs.C13
import Proofs.TieLJShape

namespace PV.Proofs.Source
open PV PV.Proofs.Tie

/-- **C13 about the source**: the translated `LJ2::energy` is the shifted, truncated 12-6 law -/
theorem C13_source_uncut (a b : LJ2 ℝ) (hc : a.cutoff = none) :
    Gen.lj2_energy a b = C13.lj a.sigma a.epsilon (C13.r2 a b) := by
  rw [lj2_energy_tie]
  exact C13.lj_uncut a b hc

theorem C13_source_cut_inside (a b : LJ2 ℝ) (c : ℝ) (hc : a.cutoff = some c) (h : C13.r2 a b < c * c) :
    Gen.lj2_energy a b = C13.lj a.sigma a.epsilon (C13.r2 a b) - C13.lj a.sigma a.epsilon (c ^ 2) := by
  rw [lj2_energy_tie]
  exact C13.lj_cut_inside a b c hc h

theorem C13_source_cut_outside (a b : LJ2 ℝ) (c : ℝ) (hc : a.cutoff = some c) (h : c * c ≤ C13.r2 a b) :
    Gen.lj2_energy a b = 0 := by
  rw [lj2_energy_tie]
  exact C13.lj_cut_outside a b c hc h

theorem C13_source_molecule (xs ys : List (LJ2 ℝ)) :
    Gen.ljshape_energy xs ys = (xs.map fun x => (ys.map fun y => Gen.lj2_energy x y).sum).sum := by
  rw [ljshape_energy_tie, C13.shape_energy_sum]
  simp only [lj2_energy_tie]

end PV.Proofs.Source
