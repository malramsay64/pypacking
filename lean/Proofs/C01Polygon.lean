/-
  Proofs/C01Polygon.lean — C01 for regular polygons.  Carrier ℝ.
-/
import Proofs.C01
import Proofs.C12Placed
import Mathlib.Tactic.NormNum
import Mathlib.Tactic.Positivity

namespace PV.Proofs.C01Polygon
open PV.Proofs.C12Orient PV.Proofs.C12Polygon PV.Proofs.C12Placed

theorem polygon_shapeOk (n : ℕ) (hn : 3 ≤ n) (items : List (Line2 ℝ))
    (h : Shape.polygon n = some (.line items)) : C01.ShapeOk (.line items) := by
  obtain rfl := polygon_items n hn items h
  apply C01.shapeOk_closed_outline
  intro l hl
  obtain ⟨l', hl', hx, hy⟩ := (ngon_convexNeg n hn).chain.next hl
  exact ⟨l', hl', hx.symm, hy.symm⟩

theorem polygon_radius_eq_one (n : ℕ) (hn : 3 ≤ n) (items : List (Line2 ℝ))
    (h : Shape.polygon n = some (.line items)) : (Shape.line items).enclosingRadius = 1 := by
  obtain rfl := polygon_items n hn items h
  -- every vertex is at distance `1` from the origin, and there is one
  have hone : ∀ x ∈ (ngon n).map (fun l => dist (sc0 : ℝ) sc0 l.sx l.sy), x = 1 := by
    intro x hx
    obtain ⟨l, hl, rfl⟩ := List.mem_map.mp hx
    obtain ⟨i, _, rfl⟩ := mem_ngon.mp hl
    have := C02.radial_vertex_norm 1 ((i : ℝ) * C02.step n) zero_le_one
    rwa [one_mul, one_mul] at this
  have h0 : pedge n 0 ∈ ngon n := mem_ngon.mpr ⟨0, by omega, rfl⟩
  apply le_antisymm
  · exact C01Geom.foldMax_le _ 1 ((neg_nonpos.mpr (by positivity)).trans zero_le_one)
      (fun x hx => (hone x hx).le)
  · have hge := C01Geom.start_le_enclosingRadius h0
    rwa [← C01Geom.dist_from_origin, hone _ (List.mem_map.mpr ⟨_, h0, rfl⟩)] at hge

/-- **C01 for regular polygons**: whenever the state reports a score, no point of the plane is
strictly inside two distinct images of the polygon (for crossings above the angular tolerance
`hang`). -/
theorem C01_polygons (s : Crystal ℝ) (n : ℕ) (hn : 3 ≤ n) (items : List (Line2 ℝ))
    (hpoly : Shape.polygon n = some (.line items)) (hshape : s.shape = .line items)
    (hc : C01.CellOk s.cell) (hrel : ∀ p ∈ s.relPositions, C01.Placed p)
    (hscore : s.checkIntersection = false)
    (i j : Nat) (hi : i < s.relPositions.length) (hj : j < s.relPositions.length)
    (n1 m1 n2 m2 : Int) (hne : (i, n1, m1) ≠ (j, n2, m2)) (px py : ℝ)
    (h1 : InteriorO (items.map (·.transform (C01.img s.cell (s.relPositions[i]) n1 m1))) px py)
    (h2 : InteriorO (items.map (·.transform (C01.img s.cell (s.relPositions[j]) n2 m2))) px py)
    (hang : ∀ a ∈ items.map (·.transform (C01.img s.cell (s.relPositions[i]) n1 m1)),
            ∀ b ∈ items.map (·.transform (C01.img s.cell (s.relPositions[j]) n2 m2)),
              C12.SharePoint a b → ¬ C12.NearParallel a b) : False := by
  have hPi := hrel _ (List.getElem_mem hi)
  have hPj := hrel _ (List.getElem_mem hj)
  obtain ⟨a1, o1⟩ := hPi.img s.cell n1 m1
  obtain ⟨a2, o2⟩ := hPj.img s.cell n2 m2
  obtain ⟨a, ha, b, hb, hs⟩ :=
    placed_polygons_share_edge n hn items hpoly _ _ a1 o1 a2 o2 px py h1 h2
  have hs' : C01.ShapeOk s.shape := by
    rw [hshape]
    exact polygon_shapeOk n hn items hpoly
  have hR : 0 ≤ s.shape.enclosingRadius := by
    rw [hshape, polygon_radius_eq_one n hn items hpoly]
    exact zero_le_one
  have hno := C01.C01_no_proper_overlap s hc hs' hR hrel hscore i j hi hj n1 m1 n2 m2 hne
  rw [hshape] at hno
  simp only [Shape.transform, C01.ProperlyMeets] at hno
  exact hno ⟨a, ha, b, hb, hang a ha b hb hs, hs⟩

/-- the hypotheses about the SHAPE are satisfiable: the square `n = 4` -/
example : ∃ items : List (Line2 ℝ), (Shape.polygon 4 : Option (Shape ℝ)) = some (.line items) ∧
    C01.ShapeOk (.line items) ∧ 0 ≤ (Shape.line items).enclosingRadius :=
  ⟨sq4, sq4_polygon, polygon_shapeOk 4 (by norm_num) sq4 sq4_polygon,
    (polygon_radius_eq_one 4 (by norm_num) sq4 sq4_polygon).symm ▸ zero_le_one⟩

example (n : ℕ) (hn : 3 ≤ n) :
    ∃ items : List (Line2 ℝ), (Shape.polygon n : Option (Shape ℝ)) = some (.line items) ∧
      C01.ShapeOk (.line items) ∧ (Shape.line items).enclosingRadius = 1 := by
  have h := polygon_eq n hn
  exact ⟨ngon n, h, polygon_shapeOk n hn _ h, polygon_radius_eq_one n hn _ h⟩

/-- the geometric part of `C01_polygons` on the non-vacuity example of `C12Placed`: the square at
the identity and shifted by `(1/2, 0)`, common interior point `(1/4, 0)` -/
example : ∃ a ∈ sq4.map (·.transform idPlace), ∃ b ∈ sq4.map (·.transform shiftPlace),
    C12.SharePoint a b :=
  placed_polygons_share_edge 4 (by norm_num) sq4 sq4_polygon _ _ idPlace_affine idPlace_orthogonal
    shiftPlace_affine shiftPlace_orthogonal (1 / 4) 0 sq4_interior_id sq4_interior_shift

end PV.Proofs.C01Polygon
