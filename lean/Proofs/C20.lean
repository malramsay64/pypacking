/-
  Proofs/C20.lean — C20: the optimiser terminates normally and does the amount of work requested.

  Termination is structural (`runInner` / `runOuter` recurse on a counter).  Carrier ℝ; the counting
  clauses are read off `optimise_layout`, which holds for any carrier.  `PanicSite` enumerates
  the panic sites of `optimise_state` (optimisation.rs): an invalid initial state, an empty basis,
  a basis index out of range, a zero `inner_steps` (division), an invalid final state.
-/
import Generated.Panics
import Lemmas.C20Opt

namespace PV.Proofs.C20
open PV PV.C20L

variable {G : Type}

/-- the builder never hands the optimiser a zero `inner_steps`: the division `steps / inner_steps`
is always defined -/
theorem build_inner_pos (b : Builder ℝ) (c : Cfg ℝ) (h : b.build = .ok c) :
    1 ≤ c.inner ∧ c.inner = Nat.max (Nat.min b.inner b.steps) 1 ∧ c.steps = b.steps ∧
    (1 ≤ b.steps → c.inner ≤ c.steps) := by
  obtain ⟨seed, -, rfl⟩ := Builder.build_eq_ok_iff.1 h
  have e : Nat.max (Nat.min b.inner b.steps) 1 = max (min b.inner b.steps) 1 := rfl
  simp only [e]
  exact ⟨by omega, trivial, trivial, fun h1 => by omega⟩

theorem build_ok (b : Builder ℝ) (s : Nat) (hs : b.seed = some s) : ∃ c, b.build = .ok c :=
  ⟨_, Builder.build_eq_ok_iff.2 ⟨s, hs, rfl⟩⟩

/-- indices come from `Uniform::new(0, n)` -/
def IndexOk (next : Nat → G → (Nat × ℝ × ℝ) × G) : Prop := ∀ n g, 0 < n → (next n g).1.1 < n

/-- C20: without a convergence threshold exactly `(steps / inner) · inner` proposals are
evaluated — at most `steps`, and more than `steps - inner` -/
theorem work_exact (score : Nat → Array ℝ → Option ℝ) (c : Cfg ℝ) (hconv : c.convergence = none)
    (next : Nat → G → (Nat × ℝ × ℝ) × G) (g : G) (heap : Array ℝ) (hs : Array (Handle ℝ))
    (r : Run ℝ) (h : optimise score c next g heap hs = .ok r) :
    r.events.length = (c.steps / c.inner) * c.inner ∧ r.events.length ≤ c.steps ∧
    c.steps < r.events.length + c.inner ∧ r.calls = r.events.length + 2 ∧ r.converged = false := by
  obtain ⟨hin, m, -, hm, hnone, hlen, hcalls, -⟩ := optimise_layout h
  have hcv := hnone hconv
  obtain rfl := hm hcv
  rw [hcv] at hcalls
  have h1 : (c.steps / c.inner) * c.inner ≤ c.steps := Nat.div_mul_le_self _ _
  have h2 : c.steps < (c.steps / c.inner) * c.inner + c.inner := Nat.lt_div_mul_add hin
  exact ⟨hlen, by omega, by omega, hcalls, hcv⟩

/-- with any configuration at most `steps` proposals are evaluated and they come in whole loops -/
theorem work_upper (score : Nat → Array ℝ → Option ℝ) (c : Cfg ℝ)
    (next : Nat → G → (Nat × ℝ × ℝ) × G) (g : G) (heap : Array ℝ) (hs : Array (Handle ℝ))
    (r : Run ℝ) (h : optimise score c next g heap hs = .ok r) :
    r.events.length ≤ c.steps ∧ c.inner ∣ r.events.length := by
  obtain ⟨-, m, hm, -, -, hlen, -⟩ := optimise_layout h
  have h1 : (c.steps / c.inner) * c.inner ≤ c.steps := Nat.div_mul_le_self _ _
  have h2 : m * c.inner ≤ (c.steps / c.inner) * c.inner := Nat.mul_le_mul_right _ hm
  exact ⟨by omega, ⟨m, by rw [hlen, Nat.mul_comm]⟩⟩

/-- C20: the run with a convergence threshold is an exact prefix of the run without it (same
proposals, same decisions), for every score function and draw stream -/
theorem convergence_prefix (score : Nat → Array ℝ → Option ℝ) (c : Cfg ℝ) (p : ℝ)
    (next : Nat → G → (Nat × ℝ × ℝ) × G) (g : G) (heap : Array ℝ) (hs : Array (Handle ℝ))
    (r r' : Run ℝ)
    (h : optimise score { c with convergence := some p } next g heap hs = .ok r)
    (h' : optimise score { c with convergence := none } next g heap hs = .ok r') :
    r.events <+: r'.events := by
  obtain ⟨s0, st1, evs1, b1, hs0, -, -, hrun, -, rfl⟩ := optimise_eq_ok_iff.1 h
  obtain ⟨s0', st0, evs0, b0, hs0', -, -, hrun', -, rfl⟩ := optimise_eq_ok_iff.1 h'
  obtain rfl : s0 = s0' := Option.some.inj (hs0.symm.trans hs0')
  exact List.reverse_prefix.2 (runOuter_prefix score c p next hrun hrun')

/-- score gain of (0-based) loop `l` of a run: tracked score after its last step minus the tracked
score before its first step -/
noncomputable def loopGain (s0 : ℝ) (inner : Nat) (evs : List (Ev ℝ)) (l : Nat) : ℝ :=
  let cur (k : Nat) : ℝ := if k = 0 then s0 else ((evs[k - 1]?).map (·.cur)).getD s0
  cur ((l + 1) * inner) - cur (l * inner)

/-- C20: the run ends early only after more than five consecutive converged loops: if it ended
early then the last six loops each improved by less than the threshold -/
theorem converged_needs_six (score : Nat → Array ℝ → Option ℝ) (c : Cfg ℝ) (p : ℝ)
    (hp : c.convergence = some p)
    (next : Nat → G → (Nat × ℝ × ℝ) × G) (g : G) (heap : Array ℝ) (hs : Array (Handle ℝ))
    (r : Run ℝ) (h : optimise score c next g heap hs = .ok r) (hc : r.converged = true)
    (hin : 1 ≤ c.inner) :
    ∃ s0, score 0 heap = some s0 ∧ 6 * c.inner ≤ r.events.length ∧
      ∀ j < 6, loopGain s0 c.inner r.events (r.events.length / c.inner - 1 - j) < p := by
  obtain ⟨s0, st', evs, b, hs0, -, -, hrun, -, rfl⟩ := optimise_eq_ok_iff.1 h
  obtain rfl : b = true := hc
  obtain ⟨L, conv, -, -, inv⟩ := runOuter_ind (Q := OuterInv s0 p c.inner) (OuterInv.loop hp) hrun
    ⟨by simp, by simp [curAfter, initSt], le_rfl, fun l h1 h2 => by omega, nofun⟩
  have h6 := inv.six_of_stop rfl
  have hle := inv.conv_le
  refine ⟨s0, hs0, inv.len ▸ Nat.mul_le_mul_right _ (by omega), fun j hj => ?_⟩
  rw [inv.len, Nat.mul_div_cancel _ (by omega)]
  -- `loopGain` unfolds to `C20L.gain` at ℝ
  exact inv.gains _ (by omega) (by omega)

/-- C20: from a valid input state (defined initial score, a score that depends on the
parameters only, at least one handle), with indices inside the basis and `inner ≥ 1` (guaranteed
by `build_inner_pos`), `optimise` never panics: every panic site is unreachable. -/
theorem no_panic (score : Nat → Array ℝ → Option ℝ) (hpure : ∀ k v, score k v = score 0 v)
    (c : Cfg ℝ) (hin : 1 ≤ c.inner)
    (next : Nat → G → (Nat × ℝ × ℝ) × G) (hidx : IndexOk next) (g : G) (heap : Array ℝ)
    (hs : Array (Handle ℝ)) (hne : 0 < hs.size) (hvalid : (score 0 heap).isSome = true) :
    ∃ r, optimise score c next g heap hs = .ok r := by
  obtain ⟨s0, hs0⟩ := Option.isSome_iff_exists.mp hvalid
  obtain ⟨⟨st', evs', b⟩, hrun⟩ :=
    runOuter_no_panic (score := score) (c := c) hidx (c.steps / c.inner) 0 0 (initSt c heap hs s0) g [] hne
  have hfin : score 0 st'.heap = some st'.cur := runOuter_score_cur hpure hrun hs0
  exact ⟨_, optimise_eq_ok_iff.2 ⟨s0, st', evs', b, hs0, hne.ne', Nat.ne_of_gt hin, hrun,
    fun _ => Option.isSome_iff_exists.2 ⟨_, (hpure _ _).trans hfin⟩, rfl⟩⟩

/-- the two hypotheses of `no_panic` on the input state are needed: an undefined initial score
panics at the initial check, a defined one with an empty basis at `Uniform::new(0, 0)` -/
theorem panic_sites (score : Nat → Array ℝ → Option ℝ) (c : Cfg ℝ)
    (next : Nat → G → (Nat × ℝ × ℝ) × G) (g : G) (heap : Array ℝ) (hs : Array (Handle ℝ)) :
    (score 0 heap = none → optimise score c next g heap hs = .panic .invalidInitial) ∧
    ((score 0 heap).isSome = true → hs.size = 0 →
        optimise score c next g heap hs = .panic .emptyBasis) := by
  constructor
  · intro h0
    unfold optimise
    rw [h0]
  · intro hv hz
    obtain ⟨s0, hs0⟩ := Option.isSome_iff_exists.mp hv
    unfold optimise
    rw [hs0]
    simp [hz]

/-- C20, the panic inventory (regenerated from the source text on every run): the panic-capable
constructs of `optimise_state` are exactly the ones the model's `PanicSite` enumerates — the
initial-score `panic!` (`invalidInitial`), `Uniform::new(0, len)` (`emptyBasis`), the `u64` division
`steps / inner_steps` (`divZero`), the two `.expect()`s on the basis index (`badIndex`) and the
final `assert!` (`finalInvalid`); `build`, `accept_score`, the `Basis` impl, `analyse_state` and
`main` contain none (their failures are `Err` values). A new `unwrap`, index or assertion changes
these lists and breaks the obligation; `no_panic` above shows each listed site unreachable from a
valid input. -/
theorem declared_panic_sites :
    Generated.optimiseStatePanicSites =
      [".expect()", ".expect()", "Uniform::new", "assert!", "panic!", "u64 division"] ∧
    Generated.acceptScorePanicSites = [] ∧ Generated.buildPanicSites = [] ∧
    Generated.basisPanicSites = [] ∧ Generated.analyseStatePanicSites = [] ∧
    Generated.mainPanicSites = [] ∧ Generated.panicsUnrecognised = [] :=
  ⟨rfl, rfl, rfl, rfl, rfl, rfl, rfl⟩

end PV.Proofs.C20
