/-
  Proofs/TieSite.lean — translator tie for src/site.rs (`transform`, `symmetries`, `positions`,
  `multiplicity`): the definitions regenerated from the source (the `map` closures over the symmetry
  operations) are the model functions of C15 / C04.
-/
import Lemmas.TieTactics
import Generated.FnsSite

namespace PV.Proofs.Tie
open PV

theorem declared_translated_site : Gen.fnsSiteUntranslated = [] := by decide

@[tie]
theorem site_transform_tie (s : Site ℝ) : Gen.site_transform s = s.transform := by
  unfold Gen.site_transform Site.transform
  tie_close

@[tie]
theorem site_multiplicity_tie (s : Site ℝ) : Gen.site_multiplicity s = s.multiplicity := by
  unfold Gen.site_multiplicity Site.multiplicity
  tie_close

@[tie]
theorem site_positions_tie (s : Site ℝ) : Gen.site_positions s = s.positions := by
  unfold Gen.site_positions Site.positions Gen.site_symmetries
  -- the wrap constants the model evaluates are the generated ones (1 and -1/2 by
  -- `C15.declared_wrap_constants`), the literals of `positions()`
  tie_close [Generated.wrapPeriod, Generated.wrapOffset]

end PV.Proofs.Tie
