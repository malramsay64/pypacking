/-
  Proofs/SrcC19.lean — the per-proposal clauses of C19 stated about `StandardBasis::sample` and the clamp of
  `set_value` as translated (Generated/FnsBasis.lean), from Proofs/C19 by Proofs/TieBasis.
-/
import Proofs.C19
import Proofs.TieBasis

namespace PV.Proofs.Source
open PV PV.Proofs.Tie

/-- **C19 about the source**: a value drawn by the translated `sample` is within `step * range / 2` of the
current value, and the translated clamp of `set_value` never moves it further away -/
theorem C19_source_sample_bound (h : Handle ℝ) (heap : Array ℝ) (step draw : ℝ) (hstep : 0 ≤ step)
    (hr : h.min ≤ h.max) (hd : -(1/2) ≤ draw ∧ draw < 1/2) :
    |Gen.basis_sample h (hget heap h.addr) step draw - hget heap h.addr| ≤ step * (h.max - h.min) / 2 := by
  rw [sample_tie]
  exact C19.sample_bound h heap step draw hstep hr hd

theorem C19_source_clamp_contracts (h : Handle ℝ) (v x : ℝ) (hlo : h.min ≤ v) (hhi : v ≤ h.max) :
    |Gen.basis_clamped h x - v| ≤ |x - v| := by
  rw [clamped_tie]
  exact C19.clamp_contracts h.min h.max v x hlo hhi

end PV.Proofs.Source
