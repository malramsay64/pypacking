/-
  Proofs/TieLoopTail.lean — translator tie for the part of the outer loop of
  `MCOptimiser::optimise_state` that follows the inner loop (src/optimisation.rs): the cooling
  `kt *= kt_ratio`, the convergence counter with its early `return`, and the adaptation of
  `step_ratio` with its clamp.  The statements are regenerated from the source as a state-passing
  function `(stopped, (rejections, kt, convergence_count, step_ratio))`; over the reals it is the
  model's `afterLoop` (C05, C07, C18, C19, C20).
-/
import Lemmas.TieTactics
import Lemmas.Optimiser
import Generated.FnsLoopTail

namespace PV.Proofs.Tie
open PV

theorem declared_translated_looptail : Gen.fnsLoopTailUntranslated = [] := by decide

/-- `rej` (`rejections`) and `lc` (`loop_counter`) are locals of the source that only its `debug!` lines
read; the model has neither -/
theorem loop_tail_eq (c : Cfg ℝ) (rej conv lc : Nat) (st : OptSt ℝ) (scoreStart : ℝ) :
    Gen.loop_tail c rej st.kt conv st.ratio st.cur scoreStart st.loopRej lc =
      ((afterLoop c scoreStart conv st).2.2, rej + st.loopRej, (afterLoop c scoreStart conv st).1.kt,
        (afterLoop c scoreStart conv st).2.1, (afterLoop c scoreStart conv st).1.ratio) := by
  unfold Gen.loop_tail afterLoop
  -- the first two tests decide the early return; what is left to split on is the test of the step adaptation
  cases c.convergence with
  | none =>
    simp only [tie]
    split_ifs <;> rfl
  | some p =>
    by_cases h1 : st.cur - scoreStart < p
    · by_cases h2 : 5 < conv + 1
      · simp only [tie, h1, h2]
      · simp only [tie, h1, h2]
        split_ifs <;> rfl
    · simp only [tie, h1]
      split_ifs <;> rfl

theorem loop_tail_tie (c : Cfg ℝ) (rej conv lc : Nat) (st : OptSt ℝ) (scoreStart : ℝ) :
    (Gen.loop_tail c rej st.kt conv st.ratio st.cur scoreStart st.loopRej lc).1 = (afterLoop c scoreStart conv st).2.2 ∧
    (Gen.loop_tail c rej st.kt conv st.ratio st.cur scoreStart st.loopRej lc).2.2.1 = (afterLoop c scoreStart conv st).1.kt ∧
    (Gen.loop_tail c rej st.kt conv st.ratio st.cur scoreStart st.loopRej lc).2.2.2.1 = (afterLoop c scoreStart conv st).2.1 ∧
    (Gen.loop_tail c rej st.kt conv st.ratio st.cur scoreStart st.loopRej lc).2.2.2.2 = (afterLoop c scoreStart conv st).1.ratio := by
  rw [loop_tail_eq]
  exact ⟨rfl, rfl, rfl, rfl⟩

theorem loop_tail_frame (c : Cfg ℝ) (scoreStart : ℝ) (conv : Nat) (st : OptSt ℝ) :
    (afterLoop c scoreStart conv st).1.heap = st.heap ∧ (afterLoop c scoreStart conv st).1.cur = st.cur ∧
    (afterLoop c scoreStart conv st).1.calls = st.calls := by
  rw [afterLoop_eq]
  exact ⟨rfl, rfl, rfl⟩

end PV.Proofs.Tie
