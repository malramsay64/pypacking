/-
  Proofs/TieHardShape.lean — translator tie for the shape-level functions (lists of components) of the
  hard shapes: `LineShape::{intersects, area, enclosing_radius}`, `MolecularShape2::{intersects, area,
  enclosing_radius}` (src/shape/{line_shape,molecular_shape2}.rs).  The iterator chains of the source
  (`iproduct!`, `map`, `sum`, `any`, `fold`, `tuple_combinations`) are translated to list functions; the
  regenerated definitions are, over the reals, the model's `Shape.intersects / area / enclosingRadius`.
-/
import Lemmas.ListSums
import Proofs.TieLine
import Proofs.TieDisc
import Generated.FnsLineShape
import Generated.FnsMolShape

namespace PV.Proofs.Tie
open PV

theorem declared_translated_hardshape :
    Gen.fnsLineShapeUntranslated = [] ∧ Gen.fnsMolShapeUntranslated = [] := by
  decide

/-- `iproduct!(..).any(..)`, nested `any`s and nested `for` loops with `return true` are the same search -/
@[tie]
theorem lineshape_intersects_tie (xs ys : List (Line2 ℝ)) :
    Gen.lineshape_intersects xs ys = (Shape.line xs).intersects (Shape.line ys) := by
  unfold Gen.lineshape_intersects Shape.intersects
  tie_close

/-- sums written as `map(..).sum()`, `fold` or accumulation loops normalise to the same `List.sum`s -/
@[tie]
theorem lineshape_area_tie (xs : List (Line2 ℝ)) : Gen.lineshape_area xs = (Shape.line xs).area := by
  unfold Gen.lineshape_area Shape.area
  tie_close

@[tie]
theorem lineshape_radius_tie (xs : List (Line2 ℝ)) :
    Gen.lineshape_enclosing_radius xs = (Shape.line xs).enclosingRadius := by
  unfold Gen.lineshape_enclosing_radius Shape.enclosingRadius
  tie_close

@[tie]
theorem molshape_intersects_tie (xs ys : List (Atom2 ℝ)) :
    Gen.molshape_intersects xs ys = (Shape.mol xs).intersects (Shape.mol ys) := by
  unfold Gen.molshape_intersects Shape.intersects
  tie_close

@[tie]
theorem molshape_area_tie (xs : List (Atom2 ℝ)) : Gen.molshape_area xs = (Shape.mol xs).area := by
  unfold Gen.molshape_area Shape.area
  tie_close

@[tie]
theorem molshape_radius_tie (xs : List (Atom2 ℝ)) :
    Gen.molshape_enclosing_radius xs = (Shape.mol xs).enclosingRadius := by
  unfold Gen.molshape_enclosing_radius Shape.enclosingRadius
  tie_close

end PV.Proofs.Tie
