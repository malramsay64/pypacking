/-
  Proofs/C12Polygon.lean — the regular polygons the crate builds (`Shape.polygon n`, n ≥ 3) are
  closed, strictly convex outlines traversed CLOCKWISE (x = sin, y = cos), with the origin strictly
  inside.  Carrier ℝ.

  With δ = 2π/n, edge `i` is the chord of the unit circle from angle `iδ` to angle `(i+1)δ`.
  Consecutive edges turn by `−2 sin δ (1 − cos δ) < 0`, and the side of edge `i` at `p` is
  `2 sin(δ/2)·(⟨p, uᵢ⟩ − cos(δ/2))` with `uᵢ` the unit vector at the mid angle `(i + 1/2)δ`: at vertex
  `j` that is `2 sin(δ/2)·(cos((i + 1/2 − j)δ) − cos(δ/2)) ≤ 0`, at the origin `−sin δ < 0`.
-/
import Proofs.C02
import Proofs.C12Orient
import Mathlib.Analysis.SpecialFunctions.Trigonometric.Basic
import Mathlib.Data.Nat.Periodic
import Mathlib.Tactic.Ring
import Mathlib.Tactic.Linarith
import Mathlib.Tactic.NormNum
import Mathlib.Tactic.LinearCombination

namespace PV.Proofs.C12Polygon
open PV.Proofs.C12Convex PV.Proofs.C12Orient
open PV.Proofs.C02 (step step_pos step_lt_pi n_mul_step sin_step_pos)

/-- `ConvexChain` with the signs reversed: a closed, clockwise, strictly convex outline -/
structure ConvexChainNeg (xs : List (Line2 ℝ)) : Prop where
  three : 3 ≤ xs.length
  joined : ∀ i (h : i < xs.length),
    (xs[i]).ex = (xs[(i + 1) % xs.length]'(Nat.mod_lt _ (by omega))).sx ∧
    (xs[i]).ey = (xs[(i + 1) % xs.length]'(Nat.mod_lt _ (by omega))).sy
  right : ∀ i (h : i < xs.length), turn (xs[i]) (xs[(i + 1) % xs.length]'(Nat.mod_lt _ (by omega))) < 0
  hull : ∀ e ∈ xs, ∀ f ∈ xs, side e f.sx f.sy ≤ 0

theorem ConvexChainNeg.chain {xs : List (Line2 ℝ)} (h : ConvexChainNeg xs) : Chain (-1) xs := by
  refine .of_succ h.three (fun i hi => ?_) (fun e he f hf => ?_)
  · exact ⟨(h.joined i hi).1, (h.joined i hi).2, by linarith [h.right i hi]⟩
  · linarith [h.hull e he f hf]

/-- a chord of the unit circle in the crate's parametrisation: angles are measured clockwise from
the `y`-axis -/
noncomputable def chord (a b : ℝ) : Line2 ℝ := ⟨Real.sin a, Real.cos a, Real.sin b, Real.cos b⟩

/-- the chord from angle `m - h` to angle `m + h` has outward unit normal `(sin m, cos m)` and
distance `cos h` from the origin -/
theorem side_chord_mid (m h px py : ℝ) :
    side (chord (m - h) (m + h)) px py =
      2 * Real.sin h * (px * Real.sin m + py * Real.cos m - Real.cos h) := by
  simp only [side, chord, Line2.dx, Line2.dy, Real.sin_add, Real.sin_sub, Real.cos_add,
    Real.cos_sub]
  linear_combination (-2 * Real.sin h * Real.cos h) * (Real.sin_sq_add_cos_sq m)

theorem turn_chord (a b c : ℝ) :
    turn (chord a b) (chord b c) =
      -(Real.sin (c - b) + Real.sin (b - a) - Real.sin (c - a)) := by
  simp only [turn, chord, Line2.dx, Line2.dy, Real.sin_sub]
  ring

noncomputable def pedge (n i : ℕ) : Line2 ℝ := chord ((i : ℝ) * step n) (((i : ℝ) + 1) * step n)

theorem cos_step_lt_one (n : ℕ) (hn : 3 ≤ n) : Real.cos (step n) < 1 := by
  have := Real.cos_lt_cos_of_nonneg_of_le_pi (le_refl 0) (step_lt_pi n hn).le (step_pos n hn)
  rwa [Real.cos_zero] at this

theorem sin_half_step_pos (n : ℕ) (hn : 3 ≤ n) : 0 < Real.sin (step n / 2) :=
  Real.sin_pos_of_pos_of_lt_pi (half_pos (step_pos n hn))
    ((half_lt_self (step_pos n hn)).trans (step_lt_pi n hn))

theorem add_mul_step (n : ℕ) (hn : 3 ≤ n) (x : ℝ) :
    (x + n) * step n = x * step n + 2 * Real.pi := by
  rw [add_mul, n_mul_step n hn]

theorem pedge_periodic (n : ℕ) (hn : 3 ≤ n) : Function.Periodic (pedge n) n := by
  intro k
  simp only [pedge, chord, Nat.cast_add, add_right_comm _ (n : ℝ) 1, add_mul_step n hn,
    Real.sin_add_two_pi, Real.cos_add_two_pi]

theorem turn_pedge (n i : ℕ) :
    turn (pedge n i) (pedge n (i + 1)) =
      -(2 * Real.sin (step n) * (1 - Real.cos (step n))) := by
  have e1 : ((i : ℝ) + 1 + 1) * step n - ((i : ℝ) + 1) * step n = step n := by ring
  have e2 : ((i : ℝ) + 1) * step n - (i : ℝ) * step n = step n := by ring
  have e3 : ((i : ℝ) + 1 + 1) * step n - (i : ℝ) * step n = 2 * step n := by ring
  simp only [pedge, Nat.cast_add, Nat.cast_one]
  rw [turn_chord, e1, e2, e3, Real.sin_two_mul]
  ring

theorem turn_pedge_neg (n : ℕ) (hn : 3 ≤ n) (i : ℕ) : turn (pedge n i) (pedge n (i + 1)) < 0 := by
  rw [turn_pedge]
  exact neg_neg_of_pos (mul_pos (mul_pos two_pos (sin_step_pos n hn))
    (sub_pos.mpr (cos_step_lt_one n hn)))

theorem side_pedge (n i : ℕ) (px py : ℝ) :
    side (pedge n i) px py =
      2 * Real.sin (step n / 2) *
        (px * Real.sin (((i : ℝ) + 1 / 2) * step n) + py * Real.cos (((i : ℝ) + 1 / 2) * step n) -
          Real.cos (step n / 2)) := by
  have e1 : (i : ℝ) * step n = ((i : ℝ) + 1 / 2) * step n - step n / 2 := by ring
  have e2 : ((i : ℝ) + 1) * step n = ((i : ℝ) + 1 / 2) * step n + step n / 2 := by ring
  rw [pedge, e1, e2, side_chord_mid]

/-- from half a step up to a full turn less half a step the cosine stays below `cos (δ/2)`
(`m` counts the whole steps beyond the first half) -/
theorem cos_mul_step_le (n : ℕ) (hn : 3 ≤ n) {m : ℝ} (h1 : 0 ≤ m) (h2 : m + 1 ≤ (n : ℝ)) :
    Real.cos ((m + 1 / 2) * step n) ≤ Real.cos (step n / 2) := by
  have hδ := step_pos n hn
  have e : (m + 1 / 2) * step n = m * step n + step n / 2 := by ring
  have hlo : step n / 2 ≤ (m + 1 / 2) * step n := by
    rw [e]
    exact le_add_of_nonneg_left (mul_nonneg h1 hδ.le)
  have hhi : (m + 1 / 2) * step n ≤ 2 * Real.pi - step n / 2 := by
    rw [e, le_sub_iff_add_le, add_assoc, add_halves, ← add_one_mul, ← n_mul_step n hn]
    exact mul_le_mul_of_nonneg_right h2 hδ.le
  rcases le_total ((m + 1 / 2) * step n) Real.pi with hy | hy
  · exact Real.cos_le_cos_of_nonneg_of_le_pi (half_pos hδ).le hy hlo
  · rw [← Real.cos_two_pi_sub ((m + 1 / 2) * step n)]
    refine Real.cos_le_cos_of_nonneg_of_le_pi (half_pos hδ).le ?_ (le_sub_comm.mp hhi)
    rw [sub_le_iff_le_add, two_mul]
    exact add_le_add le_rfl hy

/-- vertex `j` makes the angle `(i + 1/2 - j)·δ` with the normal of edge `i`, in absolute value
between `δ/2` and `2π - δ/2` -/
theorem side_pedge_vertex_nonpos (n : ℕ) (hn : 3 ≤ n) (i j : ℕ) (hi : i < n) (hj : j < n) :
    side (pedge n i) (Real.sin ((j : ℝ) * step n)) (Real.cos ((j : ℝ) * step n)) ≤ 0 := by
  have hiR : (i : ℝ) + 1 ≤ (n : ℝ) := by exact_mod_cast hi
  have hjR : (j : ℝ) ≤ (n : ℝ) := by exact_mod_cast hj.le
  rw [side_pedge, mul_comm (Real.sin _) (Real.sin _), mul_comm (Real.cos _) (Real.cos _),
    add_comm, ← Real.cos_sub, ← sub_mul]
  refine mul_nonpos_of_nonneg_of_nonpos (mul_pos two_pos (sin_half_step_pos n hn)).le
    (sub_nonpos.mpr ?_)
  rcases Nat.lt_or_ge i j with hij | hij
  · have hij' : (i : ℝ) + 1 ≤ (j : ℝ) := by exact_mod_cast hij
    rw [← Real.cos_neg, ← neg_mul,
      show -((i : ℝ) + 1 / 2 - j) = ((j : ℝ) - (i + 1)) + 1 / 2 by ring]
    refine cos_mul_step_le n hn (sub_nonneg.mpr hij') (le_trans ?_ hjR)
    rw [← sub_sub, sub_add_cancel]
    exact sub_le_self _ (Nat.cast_nonneg i)
  · have hij' : (j : ℝ) ≤ (i : ℝ) := by exact_mod_cast hij
    rw [add_sub_right_comm]
    exact cos_mul_step_le n hn (sub_nonneg.mpr hij')
      ((add_le_add (sub_le_self _ (Nat.cast_nonneg j)) le_rfl).trans hiR)

theorem side_pedge_origin (n i : ℕ) : side (pedge n i) 0 0 = -Real.sin (step n) := by
  have h : Real.sin (step n) = 2 * Real.sin (step n / 2) * Real.cos (step n / 2) := by
    rw [← Real.sin_two_mul, mul_div_cancel₀ _ two_ne_zero]
  rw [side_pedge, h]
  ring

noncomputable def ngon (n : ℕ) : List (Line2 ℝ) := (List.range n).map (pedge n)

theorem mem_ngon {n : ℕ} {e : Line2 ℝ} : e ∈ ngon n ↔ ∃ i < n, pedge n i = e := by
  simp [ngon]

theorem polygon_eq (n : ℕ) (hn : 3 ≤ n) :
    (Shape.polygon n : Option (Shape ℝ)) = some (.line (ngon n)) := by
  rw [Shape.polygon, C02.fromRadial_eq _ (by simpa using hn)]
  congr 2
  refine List.ext_getElem (by simp [ngon, C02.length_rpairs]) fun i h1 h2 => ?_
  simp only [ngon, List.getElem_map, C02.getElem_rpairs, C02.edge, List.getElem_range,
    List.getElem_replicate, List.length_replicate, sc1, Nat.cast_one, one_mul, pedge, chord,
    add_mul]

theorem polygon_items (n : ℕ) (hn : 3 ≤ n) (items : List (Line2 ℝ))
    (h : Shape.polygon n = some (.line items)) : items = ngon n := by
  rw [polygon_eq n hn] at h
  exact (Shape.line.inj (Option.some.inj h)).symm

theorem ngon_convexNeg (n : ℕ) (hn : 3 ≤ n) : ConvexChainNeg (ngon n) := by
  have hlen : (ngon n).length = n := by simp [ngon]
  have hget : ∀ i (hi : i < (ngon n).length), (ngon n)[i] = pedge n i := fun i hi => by
    simp [ngon]
  have hsucc : ∀ i (hi : i < (ngon n).length),
      (ngon n)[(i + 1) % (ngon n).length]'(Nat.mod_lt _ (by omega)) = pedge n (i + 1) := by
    intro i hi
    rw [hget, hlen, (pedge_periodic n hn).map_mod_nat]
  -- closed: as every outline that `from_radial` builds
  refine ⟨by omega, (C02.radial_outline_closed _ (by simpa using hn) _ (polygon_eq n hn)).2,
    ?_, ?_⟩
  · intro i hi
    rw [hget i hi, hsucc i hi]
    exact turn_pedge_neg n hn i
  · intro e he f hf
    obtain ⟨i, hi, rfl⟩ := mem_ngon.mp he
    obtain ⟨j, hj, rfl⟩ := mem_ngon.mp hf
    exact side_pedge_vertex_nonpos n hn i j hi hj

theorem ngon_convexCW (n : ℕ) (hn : 3 ≤ n) : ConvexChainCW (ngon n) :=
  (chain_neg_one_iff _).mpr (ngon_convexNeg n hn).chain

/-- C12: the regular polygon the crate builds is a strictly convex outline traversed clockwise -/
theorem polygon_convexCW (n : ℕ) (hn : 3 ≤ n) (items : List (Line2 ℝ))
    (h : Shape.polygon n = some (.line items)) : ConvexChainCW items := by
  obtain rfl := polygon_items n hn items h
  exact ngon_convexCW n hn

theorem polygon_convexOutline (n : ℕ) (hn : 3 ≤ n) (items : List (Line2 ℝ))
    (h : Shape.polygon n = some (.line items)) : ConvexOutline items :=
  Or.inr (polygon_convexCW n hn items h)

theorem polygon_centre_interior (n : ℕ) (hn : 3 ≤ n) (items : List (Line2 ℝ))
    (h : Shape.polygon n = some (.line items)) : ∀ e ∈ items, side e 0 0 < 0 := by
  obtain rfl := polygon_items n hn items h
  intro e he
  obtain ⟨i, _, rfl⟩ := mem_ngon.mp he
  rw [side_pedge_origin]
  exact neg_neg_of_pos (sin_step_pos n hn)

theorem polygon_centre_interiorO (n : ℕ) (hn : 3 ≤ n) (items : List (Line2 ℝ))
    (h : Shape.polygon n = some (.line items)) : InteriorO items 0 0 :=
  Or.inr (polygon_centre_interior n hn items h)

theorem polygon_centre_interior_flip (n : ℕ) (hn : 3 ≤ n) (items : List (Line2 ℝ))
    (h : Shape.polygon n = some (.line items)) : Interior (flipChain items) 0 0 :=
  (interior_flipChain items 0 0).mpr (polygon_centre_interior n hn items h)

example : ∃ items, (Shape.polygon 4 : Option (Shape ℝ)) = some (.line items) ∧ items.length = 4 ∧
    ConvexChainCW items ∧ (∀ e ∈ items, side e 0 0 < 0) := by
  have h := polygon_eq 4 (by norm_num)
  exact ⟨ngon 4, h, by simp [ngon], polygon_convexCW 4 (by norm_num) _ h,
    polygon_centre_interior 4 (by norm_num) _ h⟩

theorem polygon_four :
    (Shape.polygon 4 : Option (Shape ℝ)) =
      some (.line [⟨0, 1, 1, 0⟩, ⟨1, 0, 0, -1⟩, ⟨0, -1, -1, 0⟩, ⟨-1, 0, 0, 1⟩]) := by
  have hs : step 4 = Real.pi / 2 := by
    unfold step
    ring
  have e1 : (1 : ℝ) * step 4 = Real.pi / 2 := by
    rw [hs, one_mul]
  have e2 : ((1 : ℝ) + 1) * step 4 = Real.pi := by
    rw [hs]
    ring
  have e2' : (2 : ℝ) * step 4 = Real.pi := by
    rw [hs]
    ring
  have e3 : ((2 : ℝ) + 1) * step 4 = Real.pi / 2 + Real.pi := by
    rw [hs]
    ring
  have e3' : (3 : ℝ) * step 4 = Real.pi / 2 + Real.pi := by
    rw [hs]
    ring
  have e4 : ((3 : ℝ) + 1) * step 4 = 2 * Real.pi := by
    rw [hs]
    ring
  have p0 : pedge 4 0 = ⟨0, 1, 1, 0⟩ := by
    simp only [pedge, chord, Nat.cast_zero, zero_mul, zero_add, e1, Real.sin_zero, Real.cos_zero,
      Real.sin_pi_div_two, Real.cos_pi_div_two]
  have p1 : pedge 4 1 = ⟨1, 0, 0, -1⟩ := by
    simp only [pedge, chord, Nat.cast_one, e1, e2, Real.sin_pi_div_two, Real.cos_pi_div_two,
      Real.sin_pi, Real.cos_pi]
  have p2 : pedge 4 2 = ⟨0, -1, -1, 0⟩ := by
    simp only [pedge, chord, Nat.cast_ofNat, e2', e3, Real.sin_pi, Real.cos_pi, Real.sin_add_pi,
      Real.cos_add_pi, Real.sin_pi_div_two, Real.cos_pi_div_two, neg_zero]
  have p3 : pedge 4 3 = ⟨-1, 0, 0, 1⟩ := by
    simp only [pedge, chord, Nat.cast_ofNat, e3', e4, Real.sin_two_pi, Real.cos_two_pi,
      Real.sin_add_pi, Real.cos_add_pi, Real.sin_pi_div_two, Real.cos_pi_div_two, neg_zero]
  have h4 : ngon 4 = [pedge 4 0, pedge 4 1, pedge 4 2, pedge 4 3] := rfl
  rw [polygon_eq 4 (by norm_num), h4, p0, p1, p2, p3]

example :
    ConvexChainCW [⟨0, 1, 1, 0⟩, ⟨1, 0, 0, -1⟩, ⟨0, -1, -1, 0⟩, ⟨-1, 0, 0, 1⟩] ∧
    ∀ e ∈ ([⟨0, 1, 1, 0⟩, ⟨1, 0, 0, -1⟩, ⟨0, -1, -1, 0⟩, ⟨-1, 0, 0, 1⟩] : List (Line2 ℝ)),
      side e 0 0 < 0 :=
  ⟨polygon_convexCW 4 (by norm_num) _ polygon_four,
   polygon_centre_interior 4 (by norm_num) _ polygon_four⟩

end PV.Proofs.C12Polygon
