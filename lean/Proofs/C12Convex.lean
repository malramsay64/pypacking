/-
  Proofs/C12Convex.lean — the geometric fact behind the polygon completeness clause of C12:
  two strictly convex (counter-clockwise) outlines whose interiors meet, neither nested strictly
  inside the other, have two edges that share a point.  Carrier ℝ.
-/
import Proofs.C12
import Mathlib.Tactic.Ring
import Mathlib.Tactic.Linarith
import Mathlib.Tactic.NormNum
import Mathlib.Tactic.LinearCombination
import Mathlib.Tactic.Push

namespace PV.Proofs.C12Convex
open PV.Proofs.C12

/-- the side of the point relative to the directed edge: positive = strictly left -/
def side (e : Line2 ℝ) (px py : ℝ) : ℝ := e.dx * (py - e.sy) - e.dy * (px - e.sx)

def turn (e f : Line2 ℝ) : ℝ := e.dx * f.dy - e.dy * f.dx

/-- a closed, counter-clockwise, strictly convex outline -/
structure ConvexChain (xs : List (Line2 ℝ)) : Prop where
  three : 3 ≤ xs.length
  joined : ∀ i (h : i < xs.length),
    (xs[i]).ex = (xs[(i + 1) % xs.length]'(Nat.mod_lt _ (by omega))).sx ∧
    (xs[i]).ey = (xs[(i + 1) % xs.length]'(Nat.mod_lt _ (by omega))).sy
  left : ∀ i (h : i < xs.length), 0 < turn (xs[i]) (xs[(i + 1) % xs.length]'(Nat.mod_lt _ (by omega)))
  hull : ∀ e ∈ xs, ∀ f ∈ xs, 0 ≤ side e f.sx f.sy

def Interior (xs : List (Line2 ℝ)) (px py : ℝ) : Prop := ∀ e ∈ xs, 0 < side e px py
def Inside (xs : List (Line2 ℝ)) (px py : ℝ) : Prop := ∀ e ∈ xs, 0 ≤ side e px py

theorem side_affine (b : Line2 ℝ) (x0 y0 x1 y1 t : ℝ) :
    side b (x0 + t * (x1 - x0)) (y0 + t * (y1 - y0)) =
      (1 - t) * side b x0 y0 + t * side b x1 y1 := by
  unfold side
  ring

theorem turn_eq_side_sub (a b : Line2 ℝ) :
    turn a b = side b a.sx a.sy - side b a.ex a.ey := by
  unfold turn side Line2.dx Line2.dy
  ring

theorem Interior.inside {xs : List (Line2 ℝ)} {px py : ℝ} (h : Interior xs px py) :
    Inside xs px py := fun e he => le_of_lt (h e he)

/-- the index equation is a hypothesis, which avoids dependent rewriting under `getElem` -/
theorem ConvexChain.adj {xs : List (Line2 ℝ)} (hx : ConvexChain xs) (i j : ℕ)
    (hi : i < xs.length) (hj : j < xs.length) (hij : j = (i + 1) % xs.length) :
    (xs[i]).ex = (xs[j]).sx ∧ (xs[i]).ey = (xs[j]).sy ∧ 0 < turn (xs[i]) (xs[j]) := by
  subst hij
  exact ⟨(hx.joined i hi).1, (hx.joined i hi).2, hx.left i hi⟩

theorem ConvexChain.next {xs : List (Line2 ℝ)} (hx : ConvexChain xs) {e : Line2 ℝ} (he : e ∈ xs) :
    ∃ f ∈ xs, e.ex = f.sx ∧ e.ey = f.sy ∧ 0 < turn e f := by
  obtain ⟨i, hi, rfl⟩ := List.getElem_of_mem he
  have hn : 0 < xs.length := by omega
  exact ⟨xs[(i + 1) % xs.length]'(Nat.mod_lt _ hn), List.getElem_mem _,
    hx.adj i _ hi _ rfl⟩

theorem ConvexChain.prev {xs : List (Line2 ℝ)} (hx : ConvexChain xs) {e : Line2 ℝ} (he : e ∈ xs) :
    ∃ f ∈ xs, f.ex = e.sx ∧ f.ey = e.sy ∧ 0 < turn f e := by
  obtain ⟨i, hi, rfl⟩ := List.getElem_of_mem he
  have hn : 0 < xs.length := by omega
  have hj : (i + xs.length - 1) % xs.length < xs.length := Nat.mod_lt _ hn
  refine ⟨xs[(i + xs.length - 1) % xs.length], List.getElem_mem _, hx.adj _ i hj hi ?_⟩
  have e1 : i + xs.length - 1 + 1 = i + xs.length := by omega
  rw [Nat.mod_add_mod, e1, Nat.add_mod_right, Nat.mod_eq_of_lt hi]

theorem boundary_on_edge {xs : List (Line2 ℝ)} (hx : ConvexChain xs) {e : Line2 ℝ} (he : e ∈ xs)
    (px py : ℝ) (hin : Inside xs px py) (h0 : side e px py = 0) :
    ∃ t : ℝ, 0 ≤ t ∧ t ≤ 1 ∧ Line2.at e t = (px, py) := by
  obtain ⟨f, hf, hfx, hfy, hft⟩ := hx.next he
  obtain ⟨g, hg, hgx, hgy, hgt⟩ := hx.prev he
  -- the parameter `u` of `p` on the line of `e` is read off the next edge `f`, to which `e` is not
  -- parallel: `side f p = (1 - u) * turn e f`
  obtain ⟨u, hu, hu1⟩ : ∃ u, u * turn e f = turn e f - side f px py ∧ u ≤ 1 :=
    ⟨1 - side f px py / turn e f, by rw [sub_mul, one_mul, div_mul_cancel₀ _ hft.ne'],
      sub_le_self _ (div_nonneg (hin f hf) hft.le)⟩
  have hp : px - e.sx = u * (e.ex - e.sx) ∧ py - e.sy = u * (e.ey - e.sy) := by
    simp only [side, turn, Line2.dx, Line2.dy, ← hfx, ← hfy] at h0 hu hft
    constructor
    · apply mul_right_cancel₀ hft.ne'
      linear_combination (f.ex - e.ex) * h0 - (e.ex - e.sx) * hu
    · apply mul_right_cancel₀ hft.ne'
      linear_combination (f.ey - e.ey) * h0 - (e.ey - e.sy) * hu
  -- at the previous edge `g`, where `p` is not on the right
  have hg_side : side g px py = u * turn g e := by
    simp only [side, turn, Line2.dx, Line2.dy, hgx, hgy]
    linear_combination (e.sx - g.sx) * hp.2 - (e.sy - g.sy) * hp.1
  have hu0 : 0 ≤ u := nonneg_of_mul_nonneg_left (hg_side ▸ hin g hg) hgt
  exact ⟨u, hu0, hu1, Prod.ext (sub_eq_iff_eq_add'.mp hp.1).symm (sub_eq_iff_eq_add'.mp hp.2).symm⟩

theorem exists_min_list {α : Type} (f : α → ℝ) (l : List α) (h : l ≠ []) :
    ∃ m ∈ l, ∀ x ∈ l, f m ≤ f x :=
  Multiset.exists_min_image f (s := (l : Multiset α)) (by simpa using h)

/-- `0 < turn a b`: the segment crosses the edge from left to right, so the two are never parallel -/
theorem segment_exits_strong {ys : List (Line2 ℝ)} (hy : ConvexChain ys) (a : Line2 ℝ)
    (hs : Interior ys a.sx a.sy) (he : ¬ Interior ys a.ex a.ey) :
    ∃ b ∈ ys, SharePoint a b ∧ 0 < turn a b := by
  unfold Interior at he
  push Not at he
  obtain ⟨b0, hb0, hb0s⟩ := he
  -- of the edges whose line the segment reaches (its end is not strictly left of them) take the one
  -- it reaches first: up to there the segment is left of every edge, so the crossing point is in the
  -- closed polygon and hence on that edge (`boundary_on_edge`)
  set S := ys.filter (fun b => decide (side b a.ex a.ey ≤ 0)) with hS
  have memS : ∀ b, b ∈ S ↔ b ∈ ys ∧ side b a.ex a.ey ≤ 0 := by
    intro b
    rw [hS, List.mem_filter, decide_eq_true_eq]
  have hne : S ≠ [] := List.ne_nil_of_mem ((memS b0).mpr ⟨hb0, hb0s⟩)
  obtain ⟨m, hm, hmin⟩ := exists_min_list
    (fun b => side b a.sx a.sy / (side b a.sx a.sy - side b a.ex a.ey)) S hne
  obtain ⟨hmy, hmq⟩ := (memS m).mp hm
  have hmp : 0 < side m a.sx a.sy := hs m hmy
  have hden : 0 < side m a.sx a.sy - side m a.ex a.ey := sub_pos.mpr (hmq.trans_lt hmp)
  set t := side m a.sx a.sy / (side m a.sx a.sy - side m a.ex a.ey) with ht
  have ht0 : 0 ≤ t := div_nonneg hmp.le hden.le
  have ht1 : t ≤ 1 := (div_le_one hden).mpr ((le_sub_self_iff _).mpr hmq)
  have htm : t * (side m a.sx a.sy - side m a.ex a.ey) = side m a.sx a.sy :=
    div_mul_cancel₀ _ hden.ne'
  have hin : Inside ys (a.sx + t * (a.ex - a.sx)) (a.sy + t * (a.ey - a.sy)) := by
    intro c hc
    rw [side_affine]
    have hcp : 0 < side c a.sx a.sy := hs c hc
    by_cases hcq : side c a.ex a.ey ≤ 0
    · have hcS : c ∈ S := (memS c).mpr ⟨hc, hcq⟩
      have hcden : 0 < side c a.sx a.sy - side c a.ex a.ey := sub_pos.mpr (hcq.trans_lt hcp)
      have hle : t ≤ side c a.sx a.sy / (side c a.sx a.sy - side c a.ex a.ey) := hmin c hcS
      rw [le_div_iff₀ hcden] at hle
      linarith
    · have hcq' : 0 < side c a.ex a.ey := not_le.mp hcq
      exact add_nonneg (mul_nonneg (sub_nonneg.mpr ht1) hcp.le) (mul_nonneg ht0 hcq'.le)
  have hzero : side m (a.sx + t * (a.ex - a.sx)) (a.sy + t * (a.ey - a.sy)) = 0 := by
    rw [side_affine]
    linear_combination -htm
  obtain ⟨u, hu0, hu1, hu⟩ := boundary_on_edge hy hmy _ _ hin hzero
  refine ⟨m, hmy, ⟨t, u, ht0, ht1, hu0, hu1, hu.symm⟩, ?_⟩
  rw [turn_eq_side_sub]
  exact hden

/-- a segment from strictly inside to not strictly inside meets an edge; the second alternative never
occurs (`segment_exits_strong`) -/
theorem segment_exits' {ys : List (Line2 ℝ)} (hy : ConvexChain ys) (a : Line2 ℝ)
    (hs : Interior ys a.sx a.sy) (he : ¬ Interior ys a.ex a.ey) :
    ∃ b ∈ ys, SharePoint a b ∧ (turn a b ≠ 0 ∨ side b a.ex a.ey = 0) := by
  obtain ⟨b, hb, h, ht⟩ := segment_exits_strong hy a hs he
  exact ⟨b, hb, h, Or.inl ht.ne'⟩

theorem cyclic_step_nat (n : ℕ) (hn : 0 < n) (Q : ℕ → Prop) (i0 j0 : ℕ) (hi : i0 < n)
    (hj : j0 < n) (hQ : Q i0) (hnQ : ¬ Q j0) : ∃ i, i < n ∧ Q i ∧ ¬ Q ((i + 1) % n) := by
  by_contra hcon
  push Not at hcon
  have key : ∀ k, Q ((i0 + k) % n) := by
    intro k
    induction k with
    | zero =>
      rw [Nat.add_zero, Nat.mod_eq_of_lt hi]
      exact hQ
    | succ k ih =>
      have h := hcon ((i0 + k) % n) (Nat.mod_lt _ hn) ih
      rw [Nat.mod_add_mod] at h
      exact h
  have h := key (j0 + n - i0)
  have e : i0 + (j0 + n - i0) = j0 + n := by omega
  rw [e, Nat.add_mod_right, Nat.mod_eq_of_lt hj] at h
  exact hnQ h

theorem cyclic_step {α : Type} (vs : List α) (P : α → Prop)
    (hP : ∃ x ∈ vs, P x) (hnP : ∃ y ∈ vs, ¬ P y) :
    ∃ i, ∃ h : i < vs.length,
      P (vs[i]) ∧ ¬ P (vs[(i + 1) % vs.length]'(Nat.mod_lt _ (by omega))) := by
  obtain ⟨x, hx, hPx⟩ := hP
  obtain ⟨y, hy, hPy⟩ := hnP
  obtain ⟨i0, hi0, rfl⟩ := List.getElem_of_mem hx
  obtain ⟨j0, hj0, rfl⟩ := List.getElem_of_mem hy
  have hn : 0 < vs.length := by omega
  obtain ⟨i, hi, ⟨h, hPi⟩, hnQ⟩ := cyclic_step_nat vs.length hn
    (fun i => ∃ h : i < vs.length, P (vs[i])) i0 j0 hi0 hj0 ⟨hi0, hPx⟩
    (fun ⟨_, hp⟩ => hPy hp)
  exact ⟨i, h, hPi, fun hp => hnQ ⟨Nat.mod_lt _ hn, hp⟩⟩

theorem sharePoint_of_subsegment (b a : Line2 ℝ) (t zx zy : ℝ) (ht0 : 0 ≤ t) (ht1 : t ≤ 1)
    (hz : Line2.at b t = (zx, zy)) (h : SharePoint ⟨zx, zy, b.sx, b.sy⟩ a) : SharePoint b a := by
  obtain ⟨s, u, hs0, hs1, hu0, hu1, he⟩ := h
  have hs1' : 0 ≤ 1 - s := by linarith
  refine ⟨t * (1 - s), u, mul_nonneg ht0 hs1', mul_le_one₀ ht1 hs1' (by linarith), hu0, hu1, ?_⟩
  rw [← he]
  simp only [Line2.at, Prod.mk.injEq] at hz ⊢
  obtain ⟨h1, h2⟩ := hz
  constructor
  · rw [← h1]
    ring
  · rw [← h2]
    ring

/-- C12 for convex polygons: two convex outlines whose interiors meet, neither nested strictly inside
the other, have two edges that share a point -/
theorem convex_overlap_edges (xs ys : List (Line2 ℝ)) (hx : ConvexChain xs) (hy : ConvexChain ys)
    (px py : ℝ) (hpx : Interior xs px py) (hpy : Interior ys px py)
    (hnx : ∃ e ∈ xs, ¬ Interior ys e.sx e.sy)      -- xs is not nested strictly inside ys
    (hny : ∃ f ∈ ys, ¬ Interior xs f.sx f.sy) :    -- ys is not nested strictly inside xs
    ∃ a ∈ xs, ∃ b ∈ ys, SharePoint a b := by
  by_cases hA : ∃ f ∈ ys, Interior xs f.sx f.sy
  · -- Case A: some vertex of ys is strictly inside xs, some is not: an edge of ys leaves xs
    obtain ⟨i, hi, hPi, hnPi⟩ := cyclic_step ys (fun f => Interior xs f.sx f.sy) hA hny
    have hj := hy.joined i hi
    have hend : ¬ Interior xs (ys[i]).ex (ys[i]).ey := by
      rw [hj.1, hj.2]
      exact hnPi
    obtain ⟨a, ha, hab, -⟩ := segment_exits_strong hx (ys[i]) hPi hend
    exact ⟨a, ha, ys[i], List.getElem_mem _, sharePoint_symm hab⟩
  · -- Case B: no vertex of ys is strictly inside xs
    push Not at hA
    obtain ⟨e, he, hne⟩ := hnx
    obtain ⟨b, hb, ⟨s, t, hs0, hs1, ht0, ht1, hst⟩, -⟩ :=
      segment_exits_strong hy ⟨px, py, e.sx, e.sy⟩ hpy hne
    rcases eq_or_lt_of_le hs1 with h1 | h1
    · -- the crossing point is the vertex e.s itself
      refine ⟨e, he, b, hb, 0, t, le_refl _, zero_le_one, ht0, ht1, ?_⟩
      rw [← hst, h1, at_zero, at_one]
    · -- the crossing point z is strictly inside xs; walk from z along b to b's start
      have hz : Interior xs (px + s * (e.sx - px)) (py + s * (e.sy - py)) := by
        intro a ha
        rw [side_affine]
        have h1' := hpx a ha
        have h2 := hx.hull a ha e he
        have h3 : 0 < (1 - s) * side a px py := mul_pos (by linarith) h1'
        have h4 : 0 ≤ s * side a e.sx e.sy := mul_nonneg hs0 h2
        linarith
      obtain ⟨a, ha, hda, -⟩ := segment_exits_strong hx
        ⟨px + s * (e.sx - px), py + s * (e.sy - py), b.sx, b.sy⟩ hz (hA b hb)
      exact ⟨a, ha, b, hb,
        sharePoint_symm (sharePoint_of_subsegment b a t _ _ ht0 ht1 hst.symm hda)⟩

/- From here to the end of the file: the hypotheses of `convex_overlap_edges` can be met (two unit
   squares); nothing below is used by the theorems above. -/
def square (ox oy : ℝ) : List (Line2 ℝ) :=
  [⟨ox, oy, ox + 1, oy⟩, ⟨ox + 1, oy, ox + 1, oy + 1⟩, ⟨ox + 1, oy + 1, ox, oy + 1⟩,
   ⟨ox, oy + 1, ox, oy⟩]

theorem square_chain (ox oy : ℝ) : ConvexChain (square ox oy) where
  three := by simp [square]
  joined := by
    intro i h
    have h4 : i < 4 := h
    obtain rfl | rfl | rfl | rfl : i = 0 ∨ i = 1 ∨ i = 2 ∨ i = 3 := by omega
    all_goals simp [square]
  left := by
    intro i h
    have h4 : i < 4 := h
    obtain rfl | rfl | rfl | rfl : i = 0 ∨ i = 1 ∨ i = 2 ∨ i = 3 := by omega
    all_goals simp [square, turn, Line2.dx, Line2.dy]
  hull := by
    intro e he f hf
    simp only [square, List.mem_cons, List.not_mem_nil, or_false] at he hf
    rcases he with rfl | rfl | rfl | rfl <;> rcases hf with rfl | rfl | rfl | rfl <;>
      norm_num [side, Line2.dx, Line2.dy]

theorem interior_square (ox oy px py : ℝ) :
    Interior (square ox oy) px py ↔ oy < py ∧ px < ox + 1 ∧ py < oy + 1 ∧ ox < px := by
  simp [Interior, square, side, Line2.dx, Line2.dy]

theorem square_zero :
    square 0 0 = [⟨0, 0, 1, 0⟩, ⟨1, 0, 1, 1⟩, ⟨1, 1, 0, 1⟩, ⟨0, 1, 0, 0⟩] := by
  simp [square]

theorem unit_square_chain :
    ConvexChain [⟨0, 0, 1, 0⟩, ⟨1, 0, 1, 1⟩, ⟨1, 1, 0, 1⟩, ⟨0, 1, 0, 0⟩] := by
  rw [← square_zero]
  exact square_chain 0 0

theorem squares_share :
    ∃ a ∈ square 0 0, ∃ b ∈ square (1 / 2) (1 / 2), SharePoint a b := by
  apply convex_overlap_edges _ _ (square_chain 0 0) (square_chain (1 / 2) (1 / 2)) (3 / 4) (3 / 4)
  · rw [interior_square]
    norm_num
  · rw [interior_square]
    norm_num
  · refine ⟨⟨0, 0, 0 + 1, 0⟩, List.mem_cons_self, ?_⟩
    rw [interior_square]
    norm_num
  · refine ⟨⟨1 / 2 + 1, 1 / 2, 1 / 2 + 1, 1 / 2 + 1⟩, by simp [square], ?_⟩
    rw [interior_square]
    norm_num

theorem square_half :
    square (1 / 2) (1 / 2) =
      [⟨1 / 2, 1 / 2, 3 / 2, 1 / 2⟩, ⟨3 / 2, 1 / 2, 3 / 2, 3 / 2⟩, ⟨3 / 2, 3 / 2, 1 / 2, 3 / 2⟩,
       ⟨1 / 2, 3 / 2, 1 / 2, 1 / 2⟩] := by
  simp only [square]
  norm_num

theorem half_square_chain :
    ConvexChain [⟨1 / 2, 1 / 2, 3 / 2, 1 / 2⟩, ⟨3 / 2, 1 / 2, 3 / 2, 3 / 2⟩,
      ⟨3 / 2, 3 / 2, 1 / 2, 3 / 2⟩, ⟨1 / 2, 3 / 2, 1 / 2, 1 / 2⟩] := by
  rw [← square_half]
  exact square_chain _ _

/-- `squares_share` with the edge lists written out -/
example :
    ∃ a ∈ ([⟨0, 0, 1, 0⟩, ⟨1, 0, 1, 1⟩, ⟨1, 1, 0, 1⟩, ⟨0, 1, 0, 0⟩] : List (Line2 ℝ)),
      ∃ b ∈ ([⟨1 / 2, 1 / 2, 3 / 2, 1 / 2⟩, ⟨3 / 2, 1 / 2, 3 / 2, 3 / 2⟩,
        ⟨3 / 2, 3 / 2, 1 / 2, 3 / 2⟩, ⟨1 / 2, 3 / 2, 1 / 2, 1 / 2⟩] : List (Line2 ℝ)),
        SharePoint a b := by
  rw [← square_zero, ← square_half]
  exact squares_share

end PV.Proofs.C12Convex
