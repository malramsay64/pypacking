/-
  Proofs/SrcC05.lean — the acceptance clause of C05 stated about `MCOptimiser::accept_score` as translated
  (Generated/FnsAccept.lean), from Proofs/C05 by Proofs/TieAccept.
-/
import Proofs.C05
import Proofs.TieAccept

namespace PV.Proofs.Source
open PV PV.Proofs.Tie

/-- **C05 about the source**: at temperature zero the translated `accept_score` never accepts a score
below the current one -/
theorem C05_source_zero_temp_accept (new : Option ℝ) (old thr s : ℝ) (h0 : 0 ≤ thr)
    (h : Gen.accept_score new old 0 thr = some s) : old ≤ s :=
  C05.zero_temp_accept new old thr s h0 (accept_score_tie new old 0 thr ▸ h)

end PV.Proofs.Source
