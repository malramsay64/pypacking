/-
  Proofs/SrcC01.lean — C01 stated about `PackedState::{score, relative_positions}` as translated
  (src/state/packed.rs → Generated/FnsPacked.lean), from Proofs/C01 by the ties of Proofs/TiePacked.
-/
import Proofs.C01
import Proofs.TiePacked

namespace PV.Proofs.Source
open PV PV.Proofs.Tie

/-- **C01 about the source**: if `PackedState::score` (as translated) reports a score, no two distinct
lattice images of symmetry copies properly meet, however far apart their cell indices are -/
theorem C01_source (s : Crystal ℝ) (hc : C01.CellOk s.cell) (hs : C01.ShapeOk s.shape)
    (hR : 0 ≤ s.shape.enclosingRadius) (hrel : ∀ p ∈ Gen.packed_relative_positions s, C01.Placed p)
    (v : ℝ) (hscore : Gen.packed_score s = some v)
    (i j : Nat) (hi : i < s.relPositions.length) (hj : j < s.relPositions.length)
    (n m n' m' : Int) (hne : (i, n, m) ≠ (j, n', m')) :
    ¬ C01.ProperlyMeets (s.shape.transform (C01.img s.cell (s.relPositions[i]) n m))
      (s.shape.transform (C01.img s.cell (s.relPositions[j]) n' m')) := by
  rw [packed_score_tie] at hscore
  rw [packed_relative_positions_tie] at hrel
  exact C01.C01_no_proper_overlap s hc hs hR hrel ((C01.score_some_iff s).mp ⟨v, hscore⟩) i j hi hj n m n' m' hne

end PV.Proofs.Source
