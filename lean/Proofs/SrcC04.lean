/-
  Proofs/SrcC04.lean — C04 stated about `OccupiedSite::{positions, multiplicity}`, `Transform2::periodic`,
  `Cell2::{to_cartesian_isometry, periodic_images}` as translated (Generated/FnsSite.lean, FnsWrap.lean,
  FnsLattice.lean), from Proofs/C04 by TieSite, TieWrap, TieImages.
-/
import Proofs.C04
import Proofs.TieWrap
import Proofs.TieSite
import Proofs.TieImages

namespace PV.Proofs.Source
open PV PV.Proofs.Tie

/-- **C04 about the source**: for every table, every cell of its family and every site carrying the
table's operations, every group operation `g` maps the Cartesian placement of copy `k` — the `k`-th
output of the translated `positions`, sent to Cartesian space by the translated
`to_cartesian_isometry` — onto the Cartesian placement of a copy `k'` (below the translated
`multiplicity`) up to a lattice vector `n·A + m·B`: orientation, handedness and position -/
theorem C04_source_symmetry (e : TableEntry) (he : e ∈ Generated.tables) (c : Cell ℝ)
    (hc : C04.InFamily c e.family) (x y θ : ℝ) (g : Mat3 ℝ) (hg : g ∈ C04.opsReal e)
    (k : Nat) (hk : k < (C04.opsReal e).length) :
    let site : Site ℝ := ⟨C04.opsReal e, x, y, θ⟩
    ∃ k', ∃ (_ : k' < Gen.site_multiplicity site), ∃ P P' : Mat3 ℝ, ∃ n m : ℤ,
      ((Gen.site_positions site).map (Gen.cell_to_cartesian_isometry c))[k]? = some P ∧
      ((Gen.site_positions site).map (Gen.cell_to_cartesian_isometry c))[k']? = some P' ∧
      g.m00 * P.m00 + g.m01 * P.m10 = P'.m00 ∧ g.m00 * P.m01 + g.m01 * P.m11 = P'.m01 ∧
      g.m10 * P.m00 + g.m11 * P.m10 = P'.m10 ∧ g.m10 * P.m01 + g.m11 * P.m11 = P'.m11 ∧
      g.m00 * P.m02 + g.m01 * P.m12 + (c.toCartesian g.m02 g.m12).1
        = P'.m02 + (n : ℝ) * (C14.vecA c).1 + (m : ℝ) * (C14.vecB c).1 ∧
      g.m10 * P.m02 + g.m11 * P.m12 + (c.toCartesian g.m02 g.m12).2
        = P'.m12 + (n : ℝ) * (C14.vecA c).2 + (m : ℝ) * (C14.vecB c).2 := by
  intro site
  rw [funext (to_cartesian_isometry_tie c), site_positions_tie, site_multiplicity_tie]
  exact C04.C04_symmetry e he c hc x y θ g hg k hk

/-- **C04 about the source**: the state contains the group's full number of copies — the translated
`multiplicity`, the number of placements the translated `positions` yields and the number of Cartesian
placements made from them by the translated `to_cartesian_isometry` are all the order of the table -/
theorem C04_source_copies_eq_order (e : TableEntry) (he : e ∈ Generated.tables) (c : Cell ℝ)
    (x y θ : ℝ) :
    let site : Site ℝ := ⟨C04.opsReal e, x, y, θ⟩
    Gen.site_multiplicity site = e.ops.length ∧ (Gen.site_positions site).length = e.ops.length ∧
    ((Gen.site_positions site).map (Gen.cell_to_cartesian_isometry c)).length = e.ops.length := by
  intro site
  have h := C04.copies_eq_order e he x y θ
  rw [List.length_map, site_positions_tie, site_multiplicity_tie]
  exact ⟨(C15.positions_length site).symm.trans h, h, h⟩

/-- **C04 about the source**: the "up to a lattice translation" of the symmetry statement — the translated
`periodic`, with the constants `positions()` passes, puts a fractional position into the canonical cell
`[-1/2, 1/2)²` and moves its Cartesian image by a whole lattice vector `n·A + m·B` only -/
theorem C04_source_wrap_is_lattice_shift (c : Cell ℝ) (p : ℝ × ℝ) :
    let q := Gen.transform_periodic_position p (1 : ℝ) (-(1/2) : ℝ)
    (-(1/2) ≤ q.1 ∧ q.1 < 1/2 ∧ -(1/2) ≤ q.2 ∧ q.2 < 1/2) ∧
    ∃ n m : ℤ, c.toCartesian q.1 q.2 =
      ((c.toCartesian p.1 p.2).1 + (n : ℝ) * (C14.vecA c).1 + (m : ℝ) * (C14.vecB c).1,
       (c.toCartesian p.1 p.2).2 + (n : ℝ) * (C14.vecA c).2 + (m : ℝ) * (C14.vecB c).2) := by
  intro q
  have hq : q = (C15.w p.1, C15.w p.2) := periodic_position_tie p 1 (-(1/2))
  rw [hq]
  obtain ⟨n, hn⟩ := C15.wrap_congr p.1
  obtain ⟨m, hm⟩ := C15.wrap_congr p.2
  refine ⟨⟨(C15.wrap_range p.1).1, (C15.wrap_range p.1).2, (C15.wrap_range p.2).1,
    (C15.wrap_range p.2).2⟩, n, m, ?_⟩
  rw [hn, hm, C14.toCart_add, C14.toCart_linear c (n : ℝ) (m : ℝ), add_assoc, add_assoc]

/-- **C04 about the source**: the symmetry statement in terms of the images the overlap check looks at —
every group operation `g` maps the Cartesian placement of copy `k` EXACTLY onto one of the translated
`periodic_images` (some number of shells, untranslated image included) of a copy `k'` produced by the
translated `positions`: orientation, handedness and position -/
theorem C04_source_symmetry_images (e : TableEntry) (he : e ∈ Generated.tables) (c : Cell ℝ)
    (hc : C04.InFamily c e.family) (x y θ : ℝ) (g : Mat3 ℝ) (hg : g ∈ C04.opsReal e)
    (k : Nat) (hk : k < (C04.opsReal e).length) :
    let site : Site ℝ := ⟨C04.opsReal e, x, y, θ⟩
    ∃ k' : Nat, ∃ K : Int, ∃ P Q U : Mat3 ℝ,
      ((Gen.site_positions site).map (Gen.cell_to_cartesian_isometry c))[k]? = some P ∧
      (Gen.site_positions site)[k']? = some Q ∧
      U ∈ Gen.cell_periodic_images c Q K true ∧
      g.m00 * P.m00 + g.m01 * P.m10 = U.m00 ∧ g.m00 * P.m01 + g.m01 * P.m11 = U.m01 ∧
      g.m10 * P.m00 + g.m11 * P.m10 = U.m10 ∧ g.m10 * P.m01 + g.m11 * P.m11 = U.m11 ∧
      g.m00 * P.m02 + g.m01 * P.m12 + (c.toCartesian g.m02 g.m12).1 = U.m02 ∧
      g.m10 * P.m02 + g.m11 * P.m12 + (c.toCartesian g.m02 g.m12).2 = U.m12 := by
  intro site
  obtain ⟨k', hk', P, P', n, m, hP, hP', l1, l2, l3, l4, p1, p2⟩ :=
    C04.C04_symmetry e he c hc x y θ g hg k hk
  -- the fractional placement of copy `k'`
  rw [List.getElem?_map] at hP'
  obtain ⟨Q, hQ, rfl⟩ := Option.map_eq_some_iff.mp hP'
  -- it is affine: an operation of the table times the site transform, wrapped
  have hAff : C14.Affine Q := by
    have hmem : Q ∈ (⟨C04.opsReal e, x, y, θ⟩ : Site ℝ).positions := List.mem_of_getElem? hQ
    rw [C15.positions_eq, List.mem_map] at hmem
    obtain ⟨op, hop, rfl⟩ := hmem
    have f := (C04.real_facts e he).2.2.1 op hop
    simp only [Site.transform]
    rw [C15.placed op f.opLike θ x y]
    exact ⟨rfl, rfl, f.opLike.2.2⟩
  refine ⟨k', max (|n|) (|m|), P, Q,
    { Q with
      m02 := (c.toCartesian Q.m02 Q.m12).1 + (n : ℝ) * (C14.vecA c).1 + (m : ℝ) * (C14.vecB c).1
      m12 := (c.toCartesian Q.m02 Q.m12).2 + (n : ℝ) * (C14.vecA c).2 + (m : ℝ) * (C14.vecB c).2 },
    ?_, ?_, ?_, l1, l2, l3, l4, ?_, ?_⟩
  · rw [funext (to_cartesian_isometry_tie c), site_positions_tie]
    exact hP
  · rw [site_positions_tie]
    exact hQ
  · rw [periodic_images_tie, C14.images_spec c Q hAff, List.mem_map]
    exact ⟨(n, m), (C14.mem_imageIndices _ _ _ _).mpr
      ⟨le_max_left (|n|) (|m|), le_max_right (|n|) (|m|), nofun⟩, rfl⟩
  · rw [p1, C14.isometry_eq c Q hAff]
  · rw [p2, C14.isometry_eq c Q hAff]

end PV.Proofs.Source
