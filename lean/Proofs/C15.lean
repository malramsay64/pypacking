/-
  Proofs/C15.lean — C15: each site yields the group's copies, once each, inside one canonical cell.

  Carrier ℝ.  `Site.positions` is the model of `OccupiedSite::positions` (src/site.rs:42-47):
  `(sym * site_transform).periodic(1, -1/2)`; `wrap` is the scalar wrap of `Transform2::periodic`
  (src/transform.rs:104-109) with C `fmod` semantics.  Period and offset are read from
  `Generated.wrapPeriod/wrapOffset` (regenerated from the source on every run);
  `declared_wrap_constants` says that they are the values the property names.
-/
import Lemmas.WrapLemmas
import Proofs.C14
import Model.Site
import Model.Parser
import Generated.Tables
import Mathlib.Tactic.Ring
import Mathlib.Tactic.NormNum

namespace PV.Proofs.C15

/-- declared constants: the wrap is into the half-open unit cell `[-1/2, 1/2)` -/
theorem declared_wrap_constants :
    Generated.wrapPeriod = .lit 1 1 ∧ Generated.wrapOffset = .neg (.lit 1 2) ∧
    Generated.wrapUnrecognised = [] := by
  decide

noncomputable def w (x : ℝ) : ℝ := wrap (1 : ℝ) (-(1/2) : ℝ) x

/-- C15: every wrapped coordinate lies in `[-1/2, 1/2)` -/
theorem wrap_range (x : ℝ) : -(1/2) ≤ w x ∧ w x < 1/2 := by
  rw [w, wrap_eq_fract, neg_le_sub_iff_le_add, le_add_iff_nonneg_left, sub_lt_iff_lt_add, add_halves]
  exact ⟨Int.fract_nonneg _, Int.fract_lt_one _⟩

/-- C15: the wrap changes a coordinate by a whole number of cells -/
theorem wrap_congr (x : ℝ) : ∃ n : ℤ, w x = x + (n : ℝ) := by
  refine ⟨-⌊x + 1/2⌋, ?_⟩
  rw [w, wrap_eq_fract, Int.fract]
  push_cast
  ring

theorem wrap_periodic (x : ℝ) (n : ℤ) : w (x + (n : ℝ)) = w x := by
  rw [w, w, wrap_eq_fract, wrap_eq_fract, add_right_comm, Int.fract_add_intCast]

theorem wrap_id_on_cell (x : ℝ) (h1 : -(1/2) ≤ x) (h2 : x < 1/2) : w x = x := by
  have h3 : x + 1 / 2 < 1 := by
    rw [← lt_sub_iff_add_lt]
    exact h2.trans_eq (by norm_num)
  rw [w, wrap_eq_fract, Int.fract_eq_self.mpr ⟨neg_le_iff_add_nonneg.mp h1, h3⟩,
    add_sub_cancel_right]

/-- a symmetry operation as the parser produces it (projective row zero) or a proper affine matrix -/
def OpLike (g : Mat3 ℝ) : Prop := g.m20 = 0 ∧ g.m21 = 0 ∧ (g.m22 = 0 ∨ g.m22 = 1)

theorem period_eval : (Generated.wrapPeriod.eval noEnv : ℝ) = 1 := by
  simp [Generated.wrapPeriod, BExpr.eval]

theorem offset_eval : (Generated.wrapOffset.eval noEnv : ℝ) = -(1/2) := by
  simp [Generated.wrapOffset, BExpr.eval, q_real]

theorem positions_eq (s : Site ℝ) :
    s.positions = s.ops.map fun sym => (sym.mul s.transform).periodic (1 : ℝ) (-(1/2) : ℝ) := by
  simp only [Site.positions, period_eval, offset_eval]

theorem placed (g : Mat3 ℝ) (hop : OpLike g) (θ x y : ℝ) :
    (g.mul (Mat3.new θ x y)).periodic (1 : ℝ) (-(1/2) : ℝ) =
      ⟨g.m00 * Real.cos θ + g.m01 * Real.sin θ, g.m00 * (-Real.sin θ) + g.m01 * Real.cos θ,
       w (g.m00 * x + g.m01 * y + g.m02),
       g.m10 * Real.cos θ + g.m11 * Real.sin θ, g.m10 * (-Real.sin θ) + g.m11 * Real.cos θ,
       w (g.m10 * x + g.m11 * y + g.m12),
       0, 0, g.m22⟩ := by
  obtain ⟨h20, h21, h22⟩ := hop
  have hM : (g.mul (Mat3.new θ x y)).m22 = g.m22 := by
    simp [Mat3.mul, dot3, Mat3.new, h20, h21]
  unfold Mat3.periodic Mat3.setPosition
  rw [C14.position_of _ (hM.symm ▸ h22)]
  simp [Mat3.mul, dot3, Mat3.new, h20, h21, w]

/-- C15: one placement per operation -/
theorem positions_length (s : Site ℝ) : s.positions.length = s.ops.length := by
  simp [Site.positions]

/-- C15: the k-th placement has
  * linear part `L_k · Rot(θ)`,
  * fractional position inside `[-1/2, 1/2)²`,
  * equal to `g_k (x, y)` modulo whole lattice vectors. -/
theorem positions_spec (s : Site ℝ) (k : Nat) (hk : k < s.ops.length)
    (hop : OpLike (s.ops[k]'hk)) :
    ∃ p, s.positions[k]? = some p ∧
      let g := s.ops[k]'hk
      p.m00 = g.m00 * Real.cos s.angle + g.m01 * Real.sin s.angle ∧
      p.m01 = g.m00 * (-Real.sin s.angle) + g.m01 * Real.cos s.angle ∧
      p.m10 = g.m10 * Real.cos s.angle + g.m11 * Real.sin s.angle ∧
      p.m11 = g.m10 * (-Real.sin s.angle) + g.m11 * Real.cos s.angle ∧
      (-(1/2) ≤ p.m02 ∧ p.m02 < 1/2 ∧ -(1/2) ≤ p.m12 ∧ p.m12 < 1/2) ∧
      (∃ n m : ℤ, p.m02 = (g.m00 * s.x + g.m01 * s.y + g.m02) + (n : ℝ) ∧
                  p.m12 = (g.m10 * s.x + g.m11 * s.y + g.m12) + (m : ℝ)) := by
  refine ⟨((s.ops[k]'hk).mul s.transform).periodic (1 : ℝ) (-(1/2) : ℝ), ?_, ?_⟩
  · rw [positions_eq, List.getElem?_map, List.getElem?_eq_getElem hk]
    rfl
  · intro g
    simp only [Site.transform, placed _ hop]
    obtain ⟨n, hn⟩ := wrap_congr (g.m00 * s.x + g.m01 * s.y + g.m02)
    obtain ⟨m, hm⟩ := wrap_congr (g.m10 * s.x + g.m11 * s.y + g.m12)
    have r1 := wrap_range (g.m00 * s.x + g.m01 * s.y + g.m02)
    have r2 := wrap_range (g.m10 * s.x + g.m11 * s.y + g.m12)
    exact ⟨rfl, rfl, rfl, rfl, ⟨r1.1, r1.2, r2.1, r2.2⟩, n, m, hn, hm⟩

/-- true of every generated table (`tables_integral`) -/
def IntegralLin (g : Mat3 ℝ) : Prop :=
  ∃ a b c d : ℤ, g.m00 = a ∧ g.m01 = b ∧ g.m10 = c ∧ g.m11 = d

/-- C15: coordinates that differ by whole lattice vectors, or orientations that
differ by a multiple of 2π, give the same placements. -/
theorem site_lattice_invariant (s : Site ℝ) (n m j : ℤ)
    (hops : ∀ g ∈ s.ops, OpLike g ∧ IntegralLin g) :
    ({ s with x := s.x + (n : ℝ), y := s.y + (m : ℝ),
              angle := s.angle + (j : ℝ) * (2 * Real.pi) } : Site ℝ).positions = s.positions := by
  rw [positions_eq, positions_eq]
  apply List.map_congr_left
  intro g hg
  obtain ⟨hop, a, b, c, d, ha, hb, hc, hd⟩ := hops g hg
  simp only [Site.transform, placed _ hop, Real.sin_add_int_mul_two_pi,
    Real.cos_add_int_mul_two_pi]
  have e1 : g.m00 * (s.x + (n : ℝ)) + g.m01 * (s.y + (m : ℝ)) + g.m02
      = (g.m00 * s.x + g.m01 * s.y + g.m02) + ((a * n + b * m : ℤ) : ℝ) := by
    rw [ha, hb]
    push_cast
    ring
  have e2 : g.m10 * (s.x + (n : ℝ)) + g.m11 * (s.y + (m : ℝ)) + g.m12
      = (g.m10 * s.x + g.m11 * s.y + g.m12) + ((c * n + d * m : ℤ) : ℝ) := by
    rw [hc, hd]
    push_cast
    ring
  rw [e1, e2, wrap_periodic, wrap_periodic]

/-- finite: decided in the kernel on the generated tables, parsed by the model parser at ℚ -/
theorem tables_integral :
    Generated.tables.all (fun e => e.ops.all fun str =>
      match fromOperations (α := Rat) str with
      | .ok g => g.m20 == 0 && g.m21 == 0 && g.m22 == 0 &&
                 g.m00.den == 1 && g.m01.den == 1 && g.m10.den == 1 && g.m11.den == 1
      | .error _ => false) = true := by
  decide +kernel

/-- the p2 operation `-x,-y` satisfies the hypotheses of `site_lattice_invariant` -/
example : OpLike (⟨-1, 0, 0, 0, -1, 0, 0, 0, 0⟩ : Mat3 ℝ) ∧ IntegralLin (⟨-1, 0, 0, 0, -1, 0, 0, 0, 0⟩ : Mat3 ℝ) := by
  refine ⟨⟨rfl, rfl, Or.inl rfl⟩, -1, 0, 0, -1, ?_, ?_, ?_, ?_⟩ <;> simp

end PV.Proofs.C15
