/-
  Proofs/SrcC20.lean — the `inner_steps` clause of C20 stated about `BuildOptimiser::build` as translated
  (Generated/FnsBuild.lean), from Proofs/C20 by Proofs/TieBuild.
-/
import Proofs.C20
import Proofs.TieBuild

namespace PV.Proofs.Source
open PV PV.Proofs.Tie

/-- **C20 about the source**: the translated inner-loop length is at least one (no division by zero in the
loop count) and at most the number of steps when there is a step to make -/
theorem C20_source_inner_pos (b : Builder ℝ) (c : Cfg ℝ) (h : b.build = .ok c) :
    1 ≤ Gen.build_inner_steps b ∧ (1 ≤ b.steps → Gen.build_inner_steps b ≤ b.steps) := by
  rw [build_inner_tie b c h]
  obtain ⟨h1, _, h3, h4⟩ := C20.build_inner_pos b c h
  exact ⟨h1, fun hs => h3 ▸ h4 hs⟩

end PV.Proofs.Source
