/-
  Proofs/SrcC08.lean — clauses of C08 stated about the clamp of `StandardBasis::set_value` and
  `StandardBasis::sample` as translated (Generated/FnsBasis.lean), from Proofs/C08 by Proofs/TieBasis.
-/
import Proofs.C08
import Proofs.TieBasis
import Proofs.DeclBasis

namespace PV.Proofs.Source
open PV PV.Proofs.Tie

/-- **C08 about the source**: the value the translated `set_value` stores lies in the handle's range
whenever that range is not empty, whatever value was asked for -/
theorem C08_source_clamp_in_range (h : Handle ℝ) (v : ℝ) (hr : h.min ≤ h.max) :
    h.min ≤ Gen.basis_clamped h v ∧ Gen.basis_clamped h v ≤ h.max := by
  rw [clamped_tie]
  exact C08.clamp_in_range h.min h.max v hr

/-- **C08 about the source**: after a proposal made with the translated `sample` and written by the
translated `set_value`, the handle's cell holds a value inside the handle's range — for every step
size and every draw -/
theorem C08_source_proposal_in_range (h : Handle ℝ) (heap : Array ℝ) (step draw : ℝ)
    (ha : h.addr < heap.size) (hr : h.min ≤ h.max) :
    let heap' := heap.setIfInBounds h.addr
      (Gen.basis_clamped h (Gen.basis_sample h (hget heap h.addr) step draw))
    h.min ≤ hget heap' h.addr ∧ hget heap' h.addr ≤ h.max := by
  intro heap'
  rw [hget_setIfInBounds_self _ _ ha]
  exact C08_source_clamp_in_range h _ hr

/-- **C08 about the source**: for every handle `generate_basis` creates for a crystal state (rotational
symmetry 1 as the source declares, `DeclBasis.declared_rot_symmetry`) whose cell length and side ratio
start at or above their lower bounds, whatever the translated `set_value` stores lies in that handle's
range -/
theorem C08_source_state_handles_clamp (heap : Array ℝ) (fam : Family) (nSites : Nat)
    (hl : 1/100 ≤ hget heap 0) (hρ : 1/10 ≤ hget heap 1) (v : ℝ) :
    Generated.generateBasisRotSym = ["1", "1"] ∧
    ∀ h ∈ stateHandles heap fam nSites,
      h.min ≤ Gen.basis_clamped h v ∧ Gen.basis_clamped h v ≤ h.max :=
  ⟨DeclBasis.declared_rot_symmetry, fun h hmem =>
    C08_source_clamp_in_range h v (C08.stateHandles_range heap fam nSites hl hρ h hmem)⟩

/-- **C08 about the source**: no degenerate cell — whatever values the translated `set_value` stores
through the three handles of an oblique cell (length, side ratio, angle) whose length and ratio start at
or above their lower bounds, both sides of the cell are positive and `sin angle ≥ 1/2` -/
theorem C08_source_no_degenerate_cell (heap : Array ℝ) (hL hR hA : Handle ℝ)
    (hh : cellHandles heap .Monoclinic = [hL, hR, hA])
    (hl : 1/100 ≤ hget heap 0) (hρ : 1/10 ≤ hget heap 1) (vL vR vA : ℝ) :
    0 < Gen.basis_clamped hL vL ∧ 0 < Gen.basis_clamped hL vL * Gen.basis_clamped hR vR ∧
    1/2 ≤ Real.sin (Gen.basis_clamped hA vA) := by
  rw [C08.cellHandles_eq] at hh
  obtain ⟨rfl, rfl, rfl⟩ := hh
  have cL := C08_source_clamp_in_range ⟨0, hget heap 0, 1/100, hget heap 0⟩ vL hl
  have cR := C08_source_clamp_in_range ⟨1, hget heap 1, 1/10, hget heap 1⟩ vR hρ
  have cA := C08_source_clamp_in_range ⟨2, hget heap 2, Real.pi/6, Real.pi/2⟩ vA
    (div_le_div_of_nonneg_left Real.pi_pos.le two_pos (by norm_num))
  exact C08.no_degenerate_cell _ _ _ cL.1 cR.1 cA.1 cA.2

end PV.Proofs.Source
