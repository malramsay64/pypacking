/-
  Proofs/SrcC12.lean — C12 stated about `Atom2::intersects`, `Line2::intersects`, `LineShape::intersects` as
  translated (Generated/FnsDisc.lean, FnsLine.lean, FnsLineShape.lean), from Proofs/C12 by TieDisc, TieLine,
  TieHardShape.
-/
import Proofs.C12
import Proofs.TieHardShape

namespace PV.Proofs.Source
open PV PV.Proofs.Tie

/-- **C12 about the source**: the translated disc test is exact; the translated segment test is
"not near-parallel and the extended segments share a point" -/
theorem C12_source_discs (a b : Atom2 ℝ) (ha : 0 < a.r) (hb : 0 < b.r) :
    Gen.atom2_intersects a b = true ↔
      ∃ px py : ℝ, (px - a.x) ^ 2 + (py - a.y) ^ 2 < a.r ^ 2 ∧ (px - b.x) ^ 2 + (py - b.y) ^ 2 < b.r ^ 2 := by
  rw [atom2_intersects_tie]
  exact C12.atom_iff a b ha hb

theorem C12_source_segments (a b : Line2 ℝ) :
    Gen.line2_intersects a b = true ↔ (¬ C12.NearParallel a b ∧ C12.ExtSharePoint a b) := by
  rw [line2_intersects_tie]
  exact C12.seg_iff a b

theorem C12_source_polygons (xs ys : List (Line2 ℝ)) :
    Gen.lineshape_intersects xs ys = true ↔
      ∃ a ∈ xs, ∃ b ∈ ys, ¬ C12.NearParallel a b ∧ C12.ExtSharePoint a b := by
  rw [lineshape_intersects_tie]
  exact C12.poly_iff_edges xs ys

end PV.Proofs.Source
