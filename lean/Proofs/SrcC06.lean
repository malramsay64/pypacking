/-
  Proofs/SrcC06.lean — clauses of C06 stated about `StandardBasis::{set_value, sample}` and one iteration of
  the inner loop of `optimise_state` as translated (Generated/FnsBasis.lean, FnsInnerStep.lean), from
  Proofs/C06 and `stepOnce_spec` by TieBasis, TieInnerStep.
-/
import Proofs.C06
import Proofs.TieBasis
import Proofs.TieInnerStep

namespace PV.Proofs.Source
open PV PV.Proofs.Tie

/-- **C06 about the source**: `reset_value` after a write of the translated `set_value`
(`Gen.basis_clamped` is the value it stores, the handle remembers the cell's content) restores the
heap exactly, whatever value was asked for -/
theorem C06_source_reset_after_set (h : Handle ℝ) (heap : Array ℝ) (v : ℝ) :
    ({ h with old := hget heap h.addr } : Handle ℝ).resetValue
      (heap.setIfInBounds h.addr (Gen.basis_clamped h v)) = heap := by
  rw [clamped_tie]
  exact Handle.resetValue_setValue h heap v

/-- **C06 about the source**: a proposal made with the translated `sample` and the translated
`set_value` differs from the heap it was derived from in at most the handle's own cell -/
theorem C06_source_proposal_differs (h : Handle ℝ) (heap : Array ℝ) (step draw : ℝ) :
    C06.DiffersAtMostAt heap
      (heap.setIfInBounds h.addr
        (Gen.basis_clamped h (Gen.basis_sample h (hget heap h.addr) step draw))) h.addr := by
  rw [clamped_tie, sample_tie]
  exact C06.set_differs h heap (h.sample heap step draw)

/-- **C06 about the source**: one translated iteration of the inner loop leaves the heap either
exactly the proposal (the value of the translated `sample`, clamped by the translated `set_value`,
written into the chosen handle's cell) — and then the tracked score is the score that proposal got —
or exactly the heap before the proposal, with the tracked score unchanged (`r.2.2.1` is the heap and
`r.2.2.2.1` the tracked score of the returned `(flag, handles, heap, score, rejections)`) -/
theorem C06_source_step_keeps_or_restores (c : Cfg ℝ) (hs : Array (Handle ℝ)) (heap : Array ℝ)
    (score : Array ℝ → Option ℝ) (cur kt ratio : ℝ) (rej idx : Nat) (sdraw thr : ℝ)
    (hidx : idx < hs.size) :
    let r := Gen.inner_step c hs heap score cur kt ratio rej idx sdraw thr
    let proposal := heap.setIfInBounds (hs[idx]).addr
      (Gen.basis_clamped hs[idx]
        (Gen.basis_sample hs[idx] (hget heap (hs[idx]).addr) (c.maxStep * ratio) sdraw))
    (r.2.2.1 = proposal ∧ score proposal = some r.2.2.2.1) ∨ (r.2.2.1 = heap ∧ r.2.2.2.1 = cur) := by
  intro r proposal
  obtain ⟨st', ev, hstep, hgen⟩ :=
    inner_step_tie (fun _ => score) c 0 ⟨heap, hs, cur, kt, ratio, 0, rej⟩ idx sdraw thr hidx
  have s := stepOnce_spec hstep
  have hp : ev.proposal = proposal := by
    rw [s.proposal, s.stepSize]
    simp only [proposal, clamped_tie, sample_tie, Handle.setSampled, Handle.setValue]
  have hr : r = (false, (st'.hs, st'.heap, st'.cur, st'.loopRej)) := hgen
  rw [hr]
  rcases s.verdict with ⟨-, hacc, hheap, -⟩ | ⟨-, -, hheap, hcur, -⟩
  · left
    refine ⟨hheap.trans hp, ?_⟩
    rw [← hp, ← s.new]
    exact acceptScore_eq_some hacc
  · right
    exact ⟨hheap, hcur⟩

/-- **C06 about the source**: whatever the translated inner step decides, the heap afterwards differs
from the heap before in at most the cell of the chosen handle -/
theorem C06_source_step_touches_one_cell (c : Cfg ℝ) (hs : Array (Handle ℝ)) (heap : Array ℝ)
    (score : Array ℝ → Option ℝ) (cur kt ratio : ℝ) (rej idx : Nat) (sdraw thr : ℝ)
    (hidx : idx < hs.size) :
    C06.DiffersAtMostAt heap
      (Gen.inner_step c hs heap score cur kt ratio rej idx sdraw thr).2.2.1 (hs[idx]).addr := by
  rcases C06_source_step_keeps_or_restores c hs heap score cur kt ratio rej idx sdraw thr hidx with
    ⟨h, -⟩ | ⟨h, -⟩
  · rw [h]
    exact C06_source_proposal_differs _ _ _ _
  · rw [h]
    exact ⟨rfl, fun _ _ => rfl⟩

end PV.Proofs.Source
