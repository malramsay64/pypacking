/-
  Proofs/C05.lean — C05: zero-temperature optimisation never lowers the score.

  Carrier ℝ.  With `kt_start = 0` every other setting is arbitrary (kt_finish / kt_ratio / steps /
  inner_steps / convergence / max_step_size / seed), the score function is arbitrary (real or
  scripted, history-dependent) and so is the accept/reject history (the draw generator), with the
  only proviso that thresholds are draws from `[0,1)`, i.e. non-negative.
-/
import Proofs.C18

namespace PV.Proofs.C05
open PV

variable {G : Type}

/-- thresholds are draws from `[0,1)` -/
def ThrNonneg (next : Nat → G → (Nat × ℝ × ℝ) × G) : Prop := ∀ n g, 0 ≤ (next n g).1.2.2

def curs (s0 : ℝ) (evs : List (Ev ℝ)) : List ℝ := s0 :: evs.map (·.cur)

/-- a zero temperature stays zero under every cooling factor (ℝ: `0 * f = 0`) -/
theorem kt_stays_zero (score : Nat → Array ℝ → Option ℝ) (c : Cfg ℝ)
    (next : Nat → G → (Nat × ℝ × ℝ) × G) (g : G) (heap : Array ℝ) (hs : Array (Handle ℝ))
    (r : Run ℝ) (hkt : c.ktStart = 0) (h : optimise score c next g heap hs = .ok r) :
    ∀ ev ∈ r.events, ev.kt = 0 := by
  intro ev hev
  rw [C18.kt_in_loop score c next g heap hs r h ev hev, hkt, zero_mul]

theorem zero_temp_accept (new : Option ℝ) (old thr s : ℝ) (h0 : 0 ≤ thr)
    (h : acceptScore new old 0 thr = some s) : old ≤ s := by
  obtain rfl := acceptScore_eq_some h
  rw [acceptScore_of_not_pos _ _ _ _ (by simp [zero])] at h
  by_contra hlt
  have h1 : ¬ old < s := fun hl => hlt hl.le
  simp [hlt, h1, zero, h0.not_gt] at h

/-- **C05**: with `kt_start = 0` the tracked score never decreases along the run, and the returned
state's tracked score is at least the input's score — for every configuration, score function and
accept/reject history. -/
theorem C05_monotone (score : Nat → Array ℝ → Option ℝ) (c : Cfg ℝ)
    (next : Nat → G → (Nat × ℝ × ℝ) × G) (hthr : ThrNonneg next) (g : G) (heap : Array ℝ)
    (hs : Array (Handle ℝ)) (r : Run ℝ) (hkt : c.ktStart = 0)
    (h : optimise score c next g heap hs = .ok r) :
    ∃ s0, score 0 heap = some s0 ∧ (curs s0 r.events).Pairwise (· ≤ ·) ∧ s0 ≤ r.cur := by
  obtain ⟨s0, st', evs, b, hs0, -, -, hrun, -, rfl⟩ := optimise_eq_ok_iff.1 h
  -- the temperature stays zero, the tracked scores so far ascend and none exceeds the current one
  have key := runOuter_inv
    (P := fun _ st log => st.kt = 0 ∧ (curs s0 log).Pairwise (· ≤ ·) ∧ ∀ x ∈ curs s0 log, x ≤ st.cur)
    ?step id ?cool hrun ⟨hkt, by simp [curs], by simp [curs, initSt]⟩
  case step =>
    intro loop st g st' ev log ⟨hk, hpw, hle⟩ s
    have hmono : st.cur ≤ st'.cur := by
      rcases s.verdict with ⟨-, hacc, -⟩ | ⟨-, -, -, hcur, -⟩
      · rw [hk] at hacc
        exact zero_temp_accept _ _ _ _ (hthr _ _) hacc
      · exact hcur.ge
    have hcurs : curs s0 (log ++ [ev]) = curs s0 log ++ [st'.cur] := by simp [curs, s.cur]
    refine ⟨s.st_kt.trans hk, ?_, ?_⟩
    · rw [hcurs, List.pairwise_append]
      refine ⟨hpw, List.pairwise_singleton _ _, fun a ha b hb => ?_⟩
      rw [List.mem_singleton.1 hb]
      exact (hle a ha).trans hmono
    · rw [hcurs, List.forall_mem_append, List.forall_mem_singleton]
      exact ⟨fun x hx => (hle x hx).trans hmono, le_refl _⟩
  case cool =>
    intro loop st log stop ⟨hk, hpw, hle⟩
    refine ⟨?_, hpw, hle⟩
    show st.kt * c.ktRatio = 0
    rw [hk, zero_mul]
  obtain ⟨-, -, hpw, hle⟩ := key
  exact ⟨s0, hs0, hpw, hle s0 (by simp [curs])⟩

/-- for a score that depends on the parameters only (every real state): the score of the returned
state is at least the score of the input state -/
theorem C05_result_score (score : Nat → Array ℝ → Option ℝ) (hpure : ∀ k v, score k v = score 0 v)
    (c : Cfg ℝ) (next : Nat → G → (Nat × ℝ × ℝ) × G) (hthr : ThrNonneg next) (g : G)
    (heap : Array ℝ) (hs : Array (Handle ℝ)) (r : Run ℝ) (hkt : c.ktStart = 0)
    (h : optimise score c next g heap hs = .ok r) :
    ∃ s0 s1, score 0 heap = some s0 ∧ score 0 r.heap = some s1 ∧ s0 ≤ s1 := by
  obtain ⟨s0, hs0, -, hle⟩ := C05_monotone score c next hthr g heap hs r hkt h
  exact ⟨s0, r.cur, hs0, optimise_score_cur hpure h, hle⟩

/-- the builder passes `kt_start` through unchanged, so the CLI's stages 1 and 3 (`kt_start(0.)`)
run at zero temperature whatever `kt_finish` / `kt_ratio` the user gave -/
theorem build_keeps_kt_start (b : Builder ℝ) (c : Cfg ℝ) (h : b.build = .ok c) :
    c.ktStart = b.ktStart := by
  obtain ⟨seed, -, rfl⟩ := Builder.build_eq_ok_iff.1 h
  rfl

/-- Over ANY carrier (so in particular over the doubles, where the temperature may have become
`-0.0`, negative or NaN through `0·∞` or a cooling ratio above one): whenever the temperature is not
strictly positive — `¬ (0 < kt)`, which NaN, `±0` and negative values all satisfy — the acceptance
rule is exactly the hill-climb rule "defined, not NaN, and better, or not worse with a threshold
below one"; no division by the temperature is evaluated. -/
theorem not_positive_temperature_is_hill_climb {α : Type} [Add α] [Sub α] [Mul α] [Div α] [Neg α]
    [LT α] [DecidableLT α] [LE α] [DecidableLE α] [BEq α] [NatCast α] [IntCast α] [Transc α]
    [FModLike α] [FMin α] (n old kt thr : α) (hkt : ¬ (PV.zero < kt)) :
    acceptScore (some n) old kt thr =
      if !(n == n) then none
      else if old < n then some n
      else if decide (thr < (if old ≤ n then ((1 : Nat) : α) else PV.zero)) then some n else none :=
  acceptScore_of_not_pos n old kt thr hkt

end PV.Proofs.C05
