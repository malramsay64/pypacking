import Proofs.C08
import Proofs.C08Init
import Proofs.TieBasis
import Proofs.DeclBasis
import Proofs.TieAccept
import Proofs.SrcC08
#print axioms PV.Proofs.C08.declared_cell_bounds
#print axioms PV.Proofs.C08.declared_site_bounds
#print axioms PV.Proofs.C08.declared_initial_cell
#print axioms PV.Proofs.C08.clamp_in_range
#print axioms PV.Proofs.C08.C08_invariant
#print axioms PV.Proofs.C08.cellHandles_eq
#print axioms PV.Proofs.C08.siteHandles_eq
#print axioms PV.Proofs.C08.mem_cellHandles
#print axioms PV.Proofs.C08.stateHandles_range
#print axioms PV.Proofs.C08.site_addrs_eq
#print axioms PV.Proofs.C08.cellHandles_addrs
#print axioms PV.Proofs.C08.stateHandles_addrs
#print axioms PV.Proofs.C08.stateHandles_addrs_nodup
#print axioms PV.Proofs.C08.angle_unhandled_unless_monoclinic
#print axioms PV.Proofs.C08.C08_chained
#print axioms PV.Proofs.C08.C08_chained_angle
#print axioms PV.Proofs.C08.no_degenerate_cell
#print axioms PV.Proofs.C08Init.declared_initial_state
#print axioms PV.Proofs.C08Init.initial_copies_separated
#print axioms PV.Proofs.C08Init.site_pos_eval
#print axioms PV.Proofs.C08Init.site_angle_eval
#print axioms PV.Proofs.C08Init.fromGroup_totalShapes
#print axioms PV.Proofs.C08Init.init_rel
#print axioms PV.Proofs.C08Init.table_ops_ok
#print axioms PV.Proofs.C08Init.init_rel_pts
#print axioms PV.Proofs.C08Init.init_rel_entry
#print axioms PV.Proofs.C08Init.size_hard
#print axioms PV.Proofs.C08Init.size_lj
#print axioms PV.Proofs.C08Init.ratio_eval
#print axioms PV.Proofs.C08Init.angle_eval
#print axioms PV.Proofs.C08Init.fromGroup_cell
#print axioms PV.Proofs.C08Init.tables_nonempty
#print axioms PV.Proofs.C08Init.opsReal_pos
#print axioms PV.Proofs.C08Init.init_placed
#print axioms PV.Proofs.C08Init.scaled_sep
#print axioms PV.Proofs.C08Init.init_pair_clear
#print axioms PV.Proofs.C08Init.initial_cell
#print axioms PV.Proofs.C08Init.initial_shells
#print axioms PV.Proofs.C08Init.initial_check
#print axioms PV.Proofs.C08Init.initial_state_valid_hard
#print axioms PV.Proofs.C08Init.initial_state_scored_lj
#print axioms PV.Proofs.Tie.declared_translated_basis
#print axioms PV.Proofs.Tie.value_range_tie
#print axioms PV.Proofs.Tie.clamped_tie
#print axioms PV.Proofs.Tie.sample_tie
#print axioms PV.Proofs.DeclBasis.declared_rot_symmetry
#print axioms PV.Proofs.Tie.declared_translated_accept
#print axioms PV.Proofs.Tie.energy_surface_tie
#print axioms PV.Proofs.Tie.test_acceptance_tie
#print axioms PV.Proofs.Tie.testAcceptance_iff
#print axioms PV.Proofs.Tie.accept_score_tie
#print axioms PV.Proofs.Source.C08_source_clamp_in_range
#print axioms PV.Proofs.Source.C08_source_proposal_in_range
#print axioms PV.Proofs.Source.C08_source_state_handles_clamp
#print axioms PV.Proofs.Source.C08_source_no_degenerate_cell
