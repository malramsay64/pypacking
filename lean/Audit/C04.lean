import Proofs.C04
import Proofs.TieWrap
import Proofs.TieSite
import Proofs.TieImages
import Proofs.SrcC04
#print axioms PV.Proofs.C04.parser_cast
#print axioms PV.Proofs.C04.opsReal_eq_cast
#print axioms PV.Proofs.C04.opsReal_length
#print axioms PV.Proofs.C04.OpFacts.opLike
#print axioms PV.Proofs.C04.OpFacts.orthogonal
#print axioms PV.Proofs.C04.opFacts_cast
#print axioms PV.Proofs.C04.cast_row
#print axioms PV.Proofs.C04.cast_row_int
#print axioms PV.Proofs.C04.compEquiv_cast
#print axioms PV.Proofs.C04.tables_facts
#print axioms PV.Proofs.C04.real_facts
#print axioms PV.Proofs.C04.table_commutes
#print axioms PV.Proofs.C04.table_commutes_cell
#print axioms PV.Proofs.C04.cartIso_placed
#print axioms PV.Proofs.C04.row_assoc
#print axioms PV.Proofs.C04.row_comp
#print axioms PV.Proofs.C04.wrap_affine
#print axioms PV.Proofs.C04.row_cart
#print axioms PV.Proofs.C04.int_of_pm_one
#print axioms PV.Proofs.C04.copy_symmetry
#print axioms PV.Proofs.C04.C04_symmetry
#print axioms PV.Proofs.C04.copies_eq_order
#print axioms PV.Proofs.C04.initial_cell_in_family
#print axioms PV.Proofs.C04.inFamily_depends_on_angle_only
#print axioms PV.Proofs.Tie.declared_translated_wrap
#print axioms PV.Proofs.Tie.periodic_position_tie
#print axioms PV.Proofs.Tie.declared_translated_site
#print axioms PV.Proofs.Tie.site_transform_tie
#print axioms PV.Proofs.Tie.site_multiplicity_tie
#print axioms PV.Proofs.Tie.site_positions_tie
#print axioms PV.Proofs.Tie.declared_translated_images
#print axioms PV.Proofs.Tie.to_cartesian_point_tie
#print axioms PV.Proofs.Tie.to_cartesian_isometry_tie
#print axioms PV.Proofs.Tie.to_cartesian_translate_tie
#print axioms PV.Proofs.Tie.periodic_images_tie
#print axioms PV.Proofs.Source.C04_source_symmetry
#print axioms PV.Proofs.Source.C04_source_copies_eq_order
#print axioms PV.Proofs.Source.C04_source_wrap_is_lattice_shift
#print axioms PV.Proofs.Source.C04_source_symmetry_images
