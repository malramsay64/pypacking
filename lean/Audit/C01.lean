import Proofs.C01
import Proofs.C12Convex
import Proofs.TieDisc
import Proofs.TieLine
import Proofs.TieHardShape
import Proofs.TiePacked
import Proofs.TieImages
import Proofs.TieSite
import Proofs.C12Orient
import Proofs.C12Polygon
import Proofs.C12Placed
import Proofs.C01Polygon
import Proofs.SrcC01
import Proofs.TieShapeDispatch
import Proofs.TieOps
#print axioms PV.Proofs.C01.declared_shell_rule
#print axioms PV.Proofs.C01.shapeOk_closed_outline
#print axioms PV.Proofs.C01.tables_orthogonal
#print axioms PV.Proofs.C01.relPositions_placed
#print axioms PV.Proofs.C01.properlyMeets_detected
#print axioms PV.Proofs.C01.not_properlyMeets
#print axioms PV.Proofs.C01.ProperlyMeets.symm
#print axioms PV.Proofs.C01.properlyMeets_shiftM
#print axioms PV.Proofs.C01.Placed.img
#print axioms PV.Proofs.C01.dist2_eq
#print axioms PV.Proofs.C01.dist2_img
#print axioms PV.Proofs.C01.prefilter_sound
#print axioms PV.Proofs.C01.lattice_vector_long
#print axioms PV.Proofs.C01.shells_rule_suffices
#print axioms PV.Proofs.C01.outside_box_far
#print axioms PV.Proofs.C01.far_images_clear
#print axioms PV.Proofs.C01.properlyMeets_latticeShift
#print axioms PV.Proofs.C01.intersects_symm
#print axioms PV.Proofs.C01.check_false_iff
#print axioms PV.Proofs.C01.cartPositions_eq
#print axioms PV.Proofs.C01.check_false_iff_img
#print axioms PV.Proofs.C01.C01_no_proper_overlap
#print axioms PV.Proofs.C01.score_some_iff
#print axioms PV.Proofs.C01.C01_discs
#print axioms PV.Proofs.C12Convex.side_affine
#print axioms PV.Proofs.C12Convex.turn_eq_side_sub
#print axioms PV.Proofs.C12Convex.Interior.inside
#print axioms PV.Proofs.C12Convex.ConvexChain.adj
#print axioms PV.Proofs.C12Convex.ConvexChain.next
#print axioms PV.Proofs.C12Convex.ConvexChain.prev
#print axioms PV.Proofs.C12Convex.boundary_on_edge
#print axioms PV.Proofs.C12Convex.exists_min_list
#print axioms PV.Proofs.C12Convex.segment_exits_strong
#print axioms PV.Proofs.C12Convex.segment_exits'
#print axioms PV.Proofs.C12Convex.cyclic_step_nat
#print axioms PV.Proofs.C12Convex.cyclic_step
#print axioms PV.Proofs.C12Convex.sharePoint_of_subsegment
#print axioms PV.Proofs.C12Convex.convex_overlap_edges
#print axioms PV.Proofs.C12Convex.square_chain
#print axioms PV.Proofs.C12Convex.interior_square
#print axioms PV.Proofs.C12Convex.square_zero
#print axioms PV.Proofs.C12Convex.unit_square_chain
#print axioms PV.Proofs.C12Convex.squares_share
#print axioms PV.Proofs.C12Convex.square_half
#print axioms PV.Proofs.C12Convex.half_square_chain
#print axioms PV.Proofs.Tie.declared_translated_disc
#print axioms PV.Proofs.Tie.atom2_intersects_tie
#print axioms PV.Proofs.Tie.atom2_area_tie
#print axioms PV.Proofs.Tie.overlap_area_tie
#print axioms PV.Proofs.Tie.circle_overlap_tie
#print axioms PV.Proofs.Tie.declared_translated_line
#print axioms PV.Proofs.Tie.line2_dx_tie
#print axioms PV.Proofs.Tie.line2_dy_tie
#print axioms PV.Proofs.Tie.line2_intersects_tie
#print axioms PV.Proofs.Tie.declared_translated_hardshape
#print axioms PV.Proofs.Tie.lineshape_intersects_tie
#print axioms PV.Proofs.Tie.lineshape_area_tie
#print axioms PV.Proofs.Tie.lineshape_radius_tie
#print axioms PV.Proofs.Tie.molshape_intersects_tie
#print axioms PV.Proofs.Tie.molshape_area_tie
#print axioms PV.Proofs.Tie.molshape_radius_tie
#print axioms PV.Proofs.Tie.declared_translated_packed
#print axioms PV.Proofs.Tie.packed_total_shapes_tie
#print axioms PV.Proofs.Tie.packed_relative_positions_tie
#print axioms PV.Proofs.Tie.packed_cartesian_positions_tie
#print axioms PV.Proofs.Tie.packed_check_intersection_tie
#print axioms PV.Proofs.Tie.packed_score_tie
#print axioms PV.Proofs.Tie.declared_translated_images
#print axioms PV.Proofs.Tie.to_cartesian_point_tie
#print axioms PV.Proofs.Tie.to_cartesian_isometry_tie
#print axioms PV.Proofs.Tie.to_cartesian_translate_tie
#print axioms PV.Proofs.Tie.periodic_images_tie
#print axioms PV.Proofs.Tie.declared_translated_site
#print axioms PV.Proofs.Tie.site_transform_tie
#print axioms PV.Proofs.Tie.site_multiplicity_tie
#print axioms PV.Proofs.Tie.site_positions_tie
#print axioms PV.Proofs.C12Orient.rev_rev
#print axioms PV.Proofs.C12Orient.rev_sx
#print axioms PV.Proofs.C12Orient.rev_sy
#print axioms PV.Proofs.C12Orient.rev_ex
#print axioms PV.Proofs.C12Orient.rev_ey
#print axioms PV.Proofs.C12Orient.side_rev
#print axioms PV.Proofs.C12Orient.turn_rev_left
#print axioms PV.Proofs.C12Orient.turn_rev_right
#print axioms PV.Proofs.C12Orient.turn_rev
#print axioms PV.Proofs.C12Orient.turn_swap
#print axioms PV.Proofs.C12Orient.at_rev
#print axioms PV.Proofs.C12Orient.sharePoint_rev
#print axioms PV.Proofs.C12Orient.mem_flipChain
#print axioms PV.Proofs.C12Orient.rev_mem_flipChain
#print axioms PV.Proofs.C12Orient.forall_mem_flipChain
#print axioms PV.Proofs.C12Orient.flipChain_flipChain
#print axioms PV.Proofs.C12Orient.length_flipChain
#print axioms PV.Proofs.C12Orient.getElem_flipChain
#print axioms PV.Proofs.C12Orient.side_transform
#print axioms PV.Proofs.C12Orient.turn_transform
#print axioms PV.Proofs.C12Orient.side_transform_start
#print axioms PV.Proofs.C12Orient.Chain.of_succ
#print axioms PV.Proofs.C12Orient.chain_one_iff
#print axioms PV.Proofs.C12Orient.Chain.next
#print axioms PV.Proofs.C12Orient.idx_flip
#print axioms PV.Proofs.C12Orient.Chain.flip
#print axioms PV.Proofs.C12Orient.chain_neg_one_iff
#print axioms PV.Proofs.C12Orient.convexOutline_iff
#print axioms PV.Proofs.C12Orient.exists_pos_factor
#print axioms PV.Proofs.C12Orient.Chain.transform
#print axioms PV.Proofs.C12Orient.ConvexOutline.transform
#print axioms PV.Proofs.C12Orient.ConvexOutline.transform_orthogonal
#print axioms PV.Proofs.C12Orient.interiorO_flip
#print axioms PV.Proofs.C12Orient.interior_flipChain
#print axioms PV.Proofs.C12Orient.interiorO_transform
#print axioms PV.Proofs.C12Orient.corner_identity
#print axioms PV.Proofs.C12Orient.ConvexChain.not_all_right
#print axioms PV.Proofs.C12Orient.interiorO_iff_of_ccw
#print axioms PV.Proofs.C12Orient.interiorO_iff_of_cw
#print axioms PV.Proofs.C12Orient.interiorO_iff_right_of_cw
#print axioms PV.Proofs.C12Orient.ConvexOutline.ccw
#print axioms PV.Proofs.C12Orient.convex_overlap_edges_oriented
#print axioms PV.Proofs.C12Orient.convex_overlap_detected_oriented
#print axioms PV.Proofs.C12Orient.convex_comb_ne_zero
#print axioms PV.Proofs.C12Orient.hang_of_perp_or_apart
#print axioms PV.Proofs.C12Orient.mirror_affine
#print axioms PV.Proofs.C12Orient.mirror_square
#print axioms PV.Proofs.C12Orient.mirror_square_cw
#print axioms PV.Proofs.C12Orient.mirror_square_not_ccw
#print axioms PV.Proofs.C12Orient.square_shift
#print axioms PV.Proofs.C12Orient.mirror_square_detected
#print axioms PV.Proofs.C12Polygon.ConvexChainNeg.chain
#print axioms PV.Proofs.C12Polygon.side_chord_mid
#print axioms PV.Proofs.C12Polygon.turn_chord
#print axioms PV.Proofs.C12Polygon.cos_step_lt_one
#print axioms PV.Proofs.C12Polygon.sin_half_step_pos
#print axioms PV.Proofs.C12Polygon.add_mul_step
#print axioms PV.Proofs.C12Polygon.pedge_periodic
#print axioms PV.Proofs.C12Polygon.turn_pedge
#print axioms PV.Proofs.C12Polygon.turn_pedge_neg
#print axioms PV.Proofs.C12Polygon.side_pedge
#print axioms PV.Proofs.C12Polygon.cos_mul_step_le
#print axioms PV.Proofs.C12Polygon.side_pedge_vertex_nonpos
#print axioms PV.Proofs.C12Polygon.side_pedge_origin
#print axioms PV.Proofs.C12Polygon.mem_ngon
#print axioms PV.Proofs.C12Polygon.polygon_eq
#print axioms PV.Proofs.C12Polygon.polygon_items
#print axioms PV.Proofs.C12Polygon.ngon_convexNeg
#print axioms PV.Proofs.C12Polygon.ngon_convexCW
#print axioms PV.Proofs.C12Polygon.polygon_convexCW
#print axioms PV.Proofs.C12Polygon.polygon_convexOutline
#print axioms PV.Proofs.C12Polygon.polygon_centre_interior
#print axioms PV.Proofs.C12Polygon.polygon_centre_interiorO
#print axioms PV.Proofs.C12Polygon.polygon_centre_interior_flip
#print axioms PV.Proofs.C12Polygon.polygon_four
#print axioms PV.Proofs.C12Placed.side_affine_origin
#print axioms PV.Proofs.C12Placed.disc_core
#print axioms PV.Proofs.C12Placed.exists_max_periodic
#print axioms PV.Proofs.C12Placed.polygon_interior_in_disc
#print axioms PV.Proofs.C12Placed.sum_vertices
#print axioms PV.Proofs.C12Placed.exists_vertex_nonneg
#print axioms PV.Proofs.C12Placed.apply_surjective_of_det
#print axioms PV.Proofs.C12Placed.placed_polygon_near
#print axioms PV.Proofs.C12Placed.sq_le_sq_add
#print axioms PV.Proofs.C12Placed.placed_polygons_not_nested
#print axioms PV.Proofs.C12Placed.placed_polygons_share_edge
#print axioms PV.Proofs.C12Placed.placed_polygons_overlap_detected
#print axioms PV.Proofs.C12Placed.idPlace_affine
#print axioms PV.Proofs.C12Placed.shiftPlace_affine
#print axioms PV.Proofs.C12Placed.idPlace_orthogonal
#print axioms PV.Proofs.C12Placed.shiftPlace_orthogonal
#print axioms PV.Proofs.C12Placed.sq4_polygon
#print axioms PV.Proofs.C12Placed.sq4_id_map
#print axioms PV.Proofs.C12Placed.sq4_shift_map
#print axioms PV.Proofs.C12Placed.sq4_interior_id
#print axioms PV.Proofs.C12Placed.sq4_interior_shift
#print axioms PV.Proofs.C12Placed.sq4_hang
#print axioms PV.Proofs.C12Placed.sq4_shift_detected
#print axioms PV.Proofs.C01Polygon.polygon_shapeOk
#print axioms PV.Proofs.C01Polygon.polygon_radius_eq_one
#print axioms PV.Proofs.C01Polygon.C01_polygons
#print axioms PV.Proofs.Source.C01_source
#print axioms PV.Proofs.Tie.shape_intersects_tie
#print axioms PV.Proofs.Tie.shape_area_tie
#print axioms PV.Proofs.Tie.shape_radius_tie
#print axioms PV.Proofs.Tie.shape_transform_tie
#print axioms PV.Proofs.Tie.shape_energy_tie
#print axioms PV.Proofs.Tie.declared_translated_ops
#print axioms PV.Proofs.Tie.atom2_mul_right_tie
#print axioms PV.Proofs.Tie.atom2_mul_left_tie
#print axioms PV.Proofs.Tie.line2_mul_right_tie
#print axioms PV.Proofs.Tie.line2_mul_left_tie
#print axioms PV.Proofs.Tie.lj2_mul_right_tie
#print axioms PV.Proofs.Tie.lj2_mul_left_tie
#print axioms PV.Proofs.Tie.lineshape_transform_tie
#print axioms PV.Proofs.Tie.molshape_transform_tie
#print axioms PV.Proofs.Tie.ljshape_transform_tie
