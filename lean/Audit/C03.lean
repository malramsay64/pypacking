import Proofs.C03
import Proofs.TieLJ
import Proofs.TieLJShape
import Proofs.TiePotential
import Proofs.TieImages
import Proofs.TieSite
import Proofs.SrcC03
import Proofs.TieShapeDispatch
import Proofs.TieOps
#print axioms PV.Proofs.C03.declared_lj_constants
#print axioms PV.Proofs.C03.w_eval
#print axioms PV.Proofs.C03.score_unfold
#print axioms PV.Proofs.C03.envEnergy_split
#print axioms PV.Proofs.C03.inCell_eq
#print axioms PV.Proofs.C03.periodic_eq
#print axioms PV.Proofs.C03.score_per_molecule
#print axioms PV.Proofs.C03.totalShapes_eq_positions
#print axioms PV.Proofs.C03.energy_symm_like
#print axioms PV.Proofs.C03.circle_symm
#print axioms PV.Proofs.C03.far_pairs_vanish
#print axioms PV.Proofs.C03.box_exhausts_cutoff
#print axioms PV.Proofs.Tie.declared_translated_lj
#print axioms PV.Proofs.Tie.lj2_energy_tie
#print axioms PV.Proofs.Tie.declared_translated_ljshape
#print axioms PV.Proofs.Tie.ljshape_energy_tie
#print axioms PV.Proofs.Tie.ljshape_radius_tie
#print axioms PV.Proofs.Tie.declared_translated_potential
#print axioms PV.Proofs.Tie.potential_total_shapes_tie
#print axioms PV.Proofs.Tie.potential_relative_positions_tie
#print axioms PV.Proofs.Tie.potential_cartesian_positions_tie
#print axioms PV.Proofs.Tie.potential_score_tie
#print axioms PV.Proofs.Tie.declared_translated_images
#print axioms PV.Proofs.Tie.to_cartesian_point_tie
#print axioms PV.Proofs.Tie.to_cartesian_isometry_tie
#print axioms PV.Proofs.Tie.to_cartesian_translate_tie
#print axioms PV.Proofs.Tie.periodic_images_tie
#print axioms PV.Proofs.Tie.declared_translated_site
#print axioms PV.Proofs.Tie.site_transform_tie
#print axioms PV.Proofs.Tie.site_multiplicity_tie
#print axioms PV.Proofs.Tie.site_positions_tie
#print axioms PV.Proofs.Source.C03_source
#print axioms PV.Proofs.Tie.shape_intersects_tie
#print axioms PV.Proofs.Tie.shape_area_tie
#print axioms PV.Proofs.Tie.shape_radius_tie
#print axioms PV.Proofs.Tie.shape_transform_tie
#print axioms PV.Proofs.Tie.shape_energy_tie
#print axioms PV.Proofs.Tie.declared_translated_ops
#print axioms PV.Proofs.Tie.atom2_mul_right_tie
#print axioms PV.Proofs.Tie.atom2_mul_left_tie
#print axioms PV.Proofs.Tie.line2_mul_right_tie
#print axioms PV.Proofs.Tie.line2_mul_left_tie
#print axioms PV.Proofs.Tie.lj2_mul_right_tie
#print axioms PV.Proofs.Tie.lj2_mul_left_tie
#print axioms PV.Proofs.Tie.lineshape_transform_tie
#print axioms PV.Proofs.Tie.molshape_transform_tie
#print axioms PV.Proofs.Tie.ljshape_transform_tie
