import Proofs.C19
import Proofs.C07Draw
import Proofs.TieBasis
import Proofs.DeclBasis
import Proofs.TieLoopTail
import Proofs.TieInnerStep
import Proofs.SrcC19
#print axioms PV.Proofs.C19.sample_bound
#print axioms PV.Proofs.C19.clamp_contracts
#print axioms PV.Proofs.C19.step_ratio_le_one
#print axioms PV.Proofs.C19.C19_bound
#print axioms PV.Proofs.C07Draw.unitQ_cast
#print axioms PV.Proofs.C07Draw.halfQ_cast
#print axioms PV.Proofs.C07Draw.topBits_lt_iff
#print axioms PV.Proofs.C07Draw.topBits_count
#print axioms PV.Proofs.C07Draw.topBits_probability
#print axioms PV.Proofs.C07Draw.topBits_reflect
#print axioms PV.Proofs.C07Draw.topBits_range
#print axioms PV.Proofs.C07Draw.halfQ_range
#print axioms PV.Proofs.C07Draw.half_count
#print axioms PV.Proofs.C07Draw.half_probability
#print axioms PV.Proofs.C07Draw.half_reflect
#print axioms PV.Proofs.C07Draw.unitQ_range
#print axioms PV.Proofs.C07Draw.unit_count
#print axioms PV.Proofs.C07Draw.unit_probability
#print axioms PV.Proofs.C07Draw.accept_probability
#print axioms PV.Proofs.C07Draw.zero_never
#print axioms PV.Proofs.C07Draw.one_always
#print axioms PV.Proofs.C07Draw.mul_lt_iff_lt_ceilDiv
#print axioms PV.Proofs.C07Draw.card_mul_mem_window
#print axioms PV.Proofs.C07Draw.mod_lt_and_div_eq_iff
#print axioms PV.Proofs.C07Draw.index_count_lt_multiple
#print axioms PV.Proofs.C07Draw.zone_succ
#print axioms PV.Proofs.C07Draw.index_count_zone
#print axioms PV.Proofs.C07Draw.index_count
#print axioms PV.Proofs.Tie.declared_translated_basis
#print axioms PV.Proofs.Tie.value_range_tie
#print axioms PV.Proofs.Tie.clamped_tie
#print axioms PV.Proofs.Tie.sample_tie
#print axioms PV.Proofs.DeclBasis.declared_rot_symmetry
#print axioms PV.Proofs.Tie.declared_translated_looptail
#print axioms PV.Proofs.Tie.loop_tail_eq
#print axioms PV.Proofs.Tie.loop_tail_tie
#print axioms PV.Proofs.Tie.loop_tail_frame
#print axioms PV.Proofs.Tie.declared_translated_innerstep
#print axioms PV.Proofs.Tie.inner_step_tie
#print axioms PV.Proofs.Source.C19_source_sample_bound
#print axioms PV.Proofs.Source.C19_source_clamp_contracts
