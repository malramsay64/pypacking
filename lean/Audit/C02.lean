import Proofs.C02
import Proofs.C02Measure
import Proofs.TieDisc
import Proofs.TieCell
import Proofs.TieHardShape
import Proofs.TiePacked
import Proofs.C02Lens
import Proofs.SrcC02
import Proofs.TieShapeDispatch
import Proofs.C02Tiling
import Proofs.TieCtor
import Proofs.C02LensGeneral
import Proofs.C02Circles
#print axioms PV.Proofs.C02.score_formula
#print axioms PV.Proofs.C02.totalShapes_eq
#print axioms PV.Proofs.C02.score_pos
#print axioms PV.Proofs.C02.step_pos
#print axioms PV.Proofs.C02.step_lt_pi
#print axioms PV.Proofs.C02.n_mul_step
#print axioms PV.Proofs.C02.sin_step_pos
#print axioms PV.Proofs.C02.radial_vertex_norm
#print axioms PV.Proofs.C02.fromRadial_eq
#print axioms PV.Proofs.C02.radial_items
#print axioms PV.Proofs.C02.length_rpairs
#print axioms PV.Proofs.C02.getElem_rpairs
#print axioms PV.Proofs.C02.mem_rpairs
#print axioms PV.Proofs.C02.rsum_nonneg
#print axioms PV.Proofs.C02.radial_area
#print axioms PV.Proofs.C02.radial_shoelace
#print axioms PV.Proofs.C02.step_angle
#print axioms PV.Proofs.C02.radial_outline_closed
#print axioms PV.Proofs.C02.radial_area_eq_shoelace
#print axioms PV.Proofs.C02.polygon_area
#print axioms PV.Proofs.C02.polygon_too_few
#print axioms PV.Proofs.C02.circleOverlap_eq
#print axioms PV.Proofs.C02.mol_area_formula
#print axioms PV.Proofs.C02.circle_area
#print axioms PV.Proofs.C02.overlap_disjoint
#print axioms PV.Proofs.C02.overlap_contained
#print axioms PV.Proofs.C02.trimer_area_inclusion_exclusion
#print axioms PV.Proofs.C02.trimer_area_le_union
#print axioms PV.Proofs.C02.total_area_le
#print axioms PV.Proofs.C02.covered_le_cell
#print axioms PV.Proofs.Tie.declared_translated_disc
#print axioms PV.Proofs.Tie.atom2_intersects_tie
#print axioms PV.Proofs.Tie.atom2_area_tie
#print axioms PV.Proofs.Tie.overlap_area_tie
#print axioms PV.Proofs.Tie.circle_overlap_tie
#print axioms PV.Proofs.Tie.declared_translated_cell
#print axioms PV.Proofs.Tie.cell_a_tie
#print axioms PV.Proofs.Tie.cell_b_tie
#print axioms PV.Proofs.Tie.cell_angle_tie
#print axioms PV.Proofs.Tie.cell_area_tie
#print axioms PV.Proofs.Tie.cell_to_cartesian_tie
#print axioms PV.Proofs.Tie.declared_translated_hardshape
#print axioms PV.Proofs.Tie.lineshape_intersects_tie
#print axioms PV.Proofs.Tie.lineshape_area_tie
#print axioms PV.Proofs.Tie.lineshape_radius_tie
#print axioms PV.Proofs.Tie.molshape_intersects_tie
#print axioms PV.Proofs.Tie.molshape_area_tie
#print axioms PV.Proofs.Tie.molshape_radius_tie
#print axioms PV.Proofs.Tie.declared_translated_packed
#print axioms PV.Proofs.Tie.packed_total_shapes_tie
#print axioms PV.Proofs.Tie.packed_relative_positions_tie
#print axioms PV.Proofs.Tie.packed_cartesian_positions_tie
#print axioms PV.Proofs.Tie.packed_check_intersection_tie
#print axioms PV.Proofs.Tie.packed_score_tie
#print axioms PV.Proofs.C02Lens.segArea_eq_model
#print axioms PV.Proofs.C02Lens.hasDerivAt_segArea
#print axioms PV.Proofs.C02Lens.continuous_segArea
#print axioms PV.Proofs.C02Lens.segArea_self
#print axioms PV.Proofs.C02Lens.segArea_neg_self
#print axioms PV.Proofs.C02Lens.integral_sqrt
#print axioms PV.Proofs.C02Lens.segArea_nonneg
#print axioms PV.Proofs.C02Lens.slab_eq_regionBetween
#print axioms PV.Proofs.C02Lens.volume_slab
#print axioms PV.Proofs.C02Lens.abs_lt_of_sq_add_sq_lt
#print axioms PV.Proofs.C02Lens.capRight_eq_slab
#print axioms PV.Proofs.C02Lens.volume_capRight
#print axioms PV.Proofs.C02Lens.measurableSet_capRight
#print axioms PV.Proofs.C02Lens.capLeft_eq_slab
#print axioms PV.Proofs.C02Lens.volume_capLeft
#print axioms PV.Proofs.C02Lens.volume_disc_axis
#print axioms PV.Proofs.C02Lens.lens_split
#print axioms PV.Proofs.C02Lens.disjoint_capRight_capLeft
#print axioms PV.Proofs.C02Lens.radical_line_bounds
#print axioms PV.Proofs.C02Lens.volume_lens
#print axioms PV.Proofs.C02Lens.disc_inter_disc_eq_empty
#print axioms PV.Proofs.C02Lens.disc_subset_disc
#print axioms PV.Proofs.C02Lens.volume_inter_eq_lensArea
#print axioms PV.Proofs.C02Lens.dist_axis
#print axioms PV.Proofs.C02Lens.volume_inter_eq_circleOverlap
#print axioms PV.Proofs.Source.C02_source
#print axioms PV.Proofs.Tie.shape_intersects_tie
#print axioms PV.Proofs.Tie.shape_area_tie
#print axioms PV.Proofs.Tie.shape_radius_tie
#print axioms PV.Proofs.Tie.shape_transform_tie
#print axioms PV.Proofs.Tie.shape_energy_tie
#print axioms PV.Proofs.C02Tiling.packing_area_le_det
#print axioms PV.Proofs.C02Tiling.packing_fraction_le_one
#print axioms PV.Proofs.C02Tiling.cellArea_lower_triangular
#print axioms PV.Proofs.C02Tiling.volume_unit_cell
#print axioms PV.Proofs.C02Tiling.fundamentalDomain_translates_disjoint
#print axioms PV.Proofs.TieCtor.declared_translated_ctor
#print axioms PV.Proofs.TieCtor.mol_circle_tie
#print axioms PV.Proofs.TieCtor.lj_circle_tie
#print axioms PV.Proofs.TieCtor.mol_from_trimer_tie
#print axioms PV.Proofs.TieCtor.lj_from_trimer_tie
#print axioms PV.Proofs.TieCtor.foldlM_push
#print axioms PV.Proofs.TieCtor.filterMap_range_index
#print axioms PV.Proofs.TieCtor.cycleTake_length
#print axioms PV.Proofs.TieCtor.cycleTake_one
#print axioms PV.Proofs.TieCtor.line2_new_tie
#print axioms PV.Proofs.TieCtor.from_radial_loop_tie
#print axioms PV.Proofs.TieCtor.from_radial_tie
#print axioms PV.Proofs.TieCtor.polygon_tie
#print axioms PV.Proofs.C02Lens.rot_apply
#print axioms PV.Proofs.C02Lens.det_rot
#print axioms PV.Proofs.C02Lens.volume_preimage_rot
#print axioms PV.Proofs.C02Lens.volume_preimage_motion
#print axioms PV.Proofs.C02Lens.motion_preimage_disc
#print axioms PV.Proofs.C02Lens.volume_disc
#print axioms PV.Proofs.C02Lens.volume_inter_eq_axis
#print axioms PV.Proofs.C02Lens.exists_direction
#print axioms PV.Proofs.C02Lens.volume_inter_eq_circleOverlap_general
#print axioms PV.Proofs.C02Circles.measurableSet_discP
#print axioms PV.Proofs.C02Circles.volume_discP
#print axioms PV.Proofs.C02Circles.circle_packing_fraction_le_one
