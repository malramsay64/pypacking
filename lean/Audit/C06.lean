import Proofs.C06
import Proofs.TieBasis
import Proofs.TieInnerStep
import Proofs.SrcC06
#print axioms PV.Proofs.C06.reset_after_set
#print axioms PV.Proofs.C06.set_differs
#print axioms PV.Proofs.C06.good_of_step
#print axioms PV.Proofs.C06.step_effect
#print axioms PV.Proofs.C06.lastAfter_nil
#print axioms PV.Proofs.C06.lastAfter_snoc
#print axioms PV.Proofs.C06.lastAfter_cons
#print axioms PV.Proofs.C06.chained_snoc
#print axioms PV.Proofs.C06.lastAccepted_snoc
#print axioms PV.Proofs.C06.lastAcceptedScore_snoc
#print axioms PV.Proofs.C06.inv_step
#print axioms PV.Proofs.C06.inv_run
#print axioms PV.Proofs.C06.C06_every_step
#print axioms PV.Proofs.C06.C06_result
#print axioms PV.Proofs.C06.C06_tracked_score_is_score_of_result
#print axioms PV.Proofs.Tie.declared_translated_basis
#print axioms PV.Proofs.Tie.value_range_tie
#print axioms PV.Proofs.Tie.clamped_tie
#print axioms PV.Proofs.Tie.sample_tie
#print axioms PV.Proofs.Tie.declared_translated_innerstep
#print axioms PV.Proofs.Tie.inner_step_tie
#print axioms PV.Proofs.Source.C06_source_reset_after_set
#print axioms PV.Proofs.Source.C06_source_proposal_differs
#print axioms PV.Proofs.Source.C06_source_step_keeps_or_restores
#print axioms PV.Proofs.Source.C06_source_step_touches_one_cell
