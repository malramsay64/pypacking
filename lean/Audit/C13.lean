import Proofs.C13
import Proofs.TieLJ
import Proofs.TieLJShape
import Proofs.SrcC13
import Proofs.TieOps
import Proofs.TieCtor
#print axioms PV.Proofs.C13.shift_eq
#print axioms PV.Proofs.C13.lj_uncut
#print axioms PV.Proofs.C13.energy_some
#print axioms PV.Proofs.C13.lj_of_distance
#print axioms PV.Proofs.C13.lj_cut_inside
#print axioms PV.Proofs.C13.lj_cut_outside
#print axioms PV.Proofs.C13.lj_zero_at_cutoff
#print axioms PV.Proofs.C13.lj_distance_only
#print axioms PV.Proofs.C13.lj_rigid_invariant
#print axioms PV.Proofs.C13.lj_add_eps
#print axioms PV.Proofs.C13.lj_min
#print axioms PV.Proofs.C13.lj_min_iff
#print axioms PV.Proofs.C13.lj_symm_partial
#print axioms PV.Proofs.C13.shape_energy_sum
#print axioms PV.Proofs.C13.declared_trimer_constants
#print axioms PV.Proofs.C13.trimer_particles
#print axioms PV.Proofs.C13.lj_asymmetric_unlike
#print axioms PV.Proofs.Tie.declared_translated_lj
#print axioms PV.Proofs.Tie.lj2_energy_tie
#print axioms PV.Proofs.Tie.declared_translated_ljshape
#print axioms PV.Proofs.Tie.ljshape_energy_tie
#print axioms PV.Proofs.Tie.ljshape_radius_tie
#print axioms PV.Proofs.Source.C13_source_uncut
#print axioms PV.Proofs.Source.C13_source_cut_inside
#print axioms PV.Proofs.Source.C13_source_cut_outside
#print axioms PV.Proofs.Source.C13_source_molecule
#print axioms PV.Proofs.Tie.declared_translated_ops
#print axioms PV.Proofs.Tie.atom2_mul_right_tie
#print axioms PV.Proofs.Tie.atom2_mul_left_tie
#print axioms PV.Proofs.Tie.line2_mul_right_tie
#print axioms PV.Proofs.Tie.line2_mul_left_tie
#print axioms PV.Proofs.Tie.lj2_mul_right_tie
#print axioms PV.Proofs.Tie.lj2_mul_left_tie
#print axioms PV.Proofs.Tie.lineshape_transform_tie
#print axioms PV.Proofs.Tie.molshape_transform_tie
#print axioms PV.Proofs.Tie.ljshape_transform_tie
#print axioms PV.Proofs.TieCtor.declared_translated_ctor
#print axioms PV.Proofs.TieCtor.mol_circle_tie
#print axioms PV.Proofs.TieCtor.lj_circle_tie
#print axioms PV.Proofs.TieCtor.mol_from_trimer_tie
#print axioms PV.Proofs.TieCtor.lj_from_trimer_tie
#print axioms PV.Proofs.TieCtor.foldlM_push
#print axioms PV.Proofs.TieCtor.filterMap_range_index
#print axioms PV.Proofs.TieCtor.cycleTake_length
#print axioms PV.Proofs.TieCtor.cycleTake_one
#print axioms PV.Proofs.TieCtor.line2_new_tie
#print axioms PV.Proofs.TieCtor.from_radial_loop_tie
#print axioms PV.Proofs.TieCtor.from_radial_tie
#print axioms PV.Proofs.TieCtor.polygon_tie
