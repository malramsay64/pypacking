import Proofs.C07
import Proofs.C07Draw
import Proofs.TieAccept
import Proofs.TieLoopTail
import Proofs.SrcC07
#print axioms PV.Proofs.C07.exp_neg_div_le_one
#print axioms PV.Proofs.C07.surface_worse
#print axioms PV.Proofs.C07.better_accepted
#print axioms PV.Proofs.C07.none_rejected
#print axioms PV.Proofs.C07.equal_accepted
#print axioms PV.Proofs.C07.worse_at_zero_rejected
#print axioms PV.Proofs.C07.worse_iff
#print axioms PV.Proofs.C07.nan_never_accepted
#print axioms PV.Proofs.C07.accepted_value
#print axioms PV.Proofs.C07.accept_measure
#print axioms PV.Proofs.C07.surface_range
#print axioms PV.Proofs.C07.applied_in_step
#print axioms PV.Proofs.C07Draw.unitQ_cast
#print axioms PV.Proofs.C07Draw.halfQ_cast
#print axioms PV.Proofs.C07Draw.topBits_lt_iff
#print axioms PV.Proofs.C07Draw.topBits_count
#print axioms PV.Proofs.C07Draw.topBits_probability
#print axioms PV.Proofs.C07Draw.topBits_reflect
#print axioms PV.Proofs.C07Draw.topBits_range
#print axioms PV.Proofs.C07Draw.halfQ_range
#print axioms PV.Proofs.C07Draw.half_count
#print axioms PV.Proofs.C07Draw.half_probability
#print axioms PV.Proofs.C07Draw.half_reflect
#print axioms PV.Proofs.C07Draw.unitQ_range
#print axioms PV.Proofs.C07Draw.unit_count
#print axioms PV.Proofs.C07Draw.unit_probability
#print axioms PV.Proofs.C07Draw.accept_probability
#print axioms PV.Proofs.C07Draw.zero_never
#print axioms PV.Proofs.C07Draw.one_always
#print axioms PV.Proofs.C07Draw.mul_lt_iff_lt_ceilDiv
#print axioms PV.Proofs.C07Draw.card_mul_mem_window
#print axioms PV.Proofs.C07Draw.mod_lt_and_div_eq_iff
#print axioms PV.Proofs.C07Draw.index_count_lt_multiple
#print axioms PV.Proofs.C07Draw.zone_succ
#print axioms PV.Proofs.C07Draw.index_count_zone
#print axioms PV.Proofs.C07Draw.index_count
#print axioms PV.Proofs.Tie.declared_translated_accept
#print axioms PV.Proofs.Tie.energy_surface_tie
#print axioms PV.Proofs.Tie.test_acceptance_tie
#print axioms PV.Proofs.Tie.testAcceptance_iff
#print axioms PV.Proofs.Tie.accept_score_tie
#print axioms PV.Proofs.Tie.declared_translated_looptail
#print axioms PV.Proofs.Tie.loop_tail_eq
#print axioms PV.Proofs.Tie.loop_tail_tie
#print axioms PV.Proofs.Tie.loop_tail_frame
#print axioms PV.Proofs.Source.C07_source_better
#print axioms PV.Proofs.Source.C07_source_none
#print axioms PV.Proofs.Source.C07_source_worse_iff
#print axioms PV.Proofs.Source.C07_source_zero
