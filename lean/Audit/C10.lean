import Proofs.C10
import Proofs.TieCmp
import Proofs.TieCtor
#print axioms PV.Proofs.C10.declared_pipeline
#print axioms PV.Proofs.C10.declared_start_config_unused
#print axioms PV.Proofs.C10.declared_ordering
#print axioms PV.Proofs.C10.label_faithful
#print axioms PV.Proofs.C10.mr_left
#print axioms PV.Proofs.C10.mr_right
#print axioms PV.Proofs.C10.mr_mem
#print axioms PV.Proofs.C10.score_le_mr_left
#print axioms PV.Proofs.C10.score_le_mr_right
#print axioms PV.Proofs.C10.mr_assoc
#print axioms PV.Proofs.C10.foldl_mr_cons
#print axioms PV.Proofs.C10.lastArgmax_append
#print axioms PV.Proofs.C10.reduce_any_tree
#print axioms PV.Proofs.C10.foldl_mr_is_max
#print axioms PV.Proofs.C10.lastArgmax_is_max
#print axioms PV.Proofs.C10.mem_statesOf
#print axioms PV.Proofs.C10.mr_of_maxRight
#print axioms PV.Proofs.C10.foldl_maxRight_eq
#print axioms PV.Proofs.C10.reduceMax_eq_lastArgmax
#print axioms PV.Proofs.C10.cliRun_written
#print axioms PV.Proofs.C10.written_is_max
#print axioms PV.Proofs.C10.prefix_monotone
#print axioms PV.Proofs.C10.identity_withHeap
#print axioms PV.Proofs.C10.totalShapes_eq
#print axioms PV.Proofs.C10.identity_eq
#print axioms PV.Proofs.C10.runStage_same
#print axioms PV.Proofs.C10.stages_same
#print axioms PV.Proofs.C10.replica_same
#print axioms PV.Proofs.C10.withHeap_keeps_identity
#print axioms PV.Proofs.C10.written_labelled
#print axioms PV.Proofs.C10.zero_replications
#print axioms PV.Proofs.TieCmp.packed_partial_cmp_tie
#print axioms PV.Proofs.TieCmp.packed_cmp_tie
#print axioms PV.Proofs.TieCmp.potential_partial_cmp_tie
#print axioms PV.Proofs.TieCmp.potential_cmp_tie
#print axioms PV.Proofs.TieCmp.packed_eq_tie
#print axioms PV.Proofs.TieCmp.potential_eq_tie
#print axioms PV.Proofs.TieCmp.maxRight_eq_maxByCmp
#print axioms PV.Proofs.TieCmp.maxRight_packed
#print axioms PV.Proofs.TieCmp.maxRight_potential
#print axioms PV.Proofs.TieCtor.declared_translated_ctor
#print axioms PV.Proofs.TieCtor.mol_circle_tie
#print axioms PV.Proofs.TieCtor.lj_circle_tie
#print axioms PV.Proofs.TieCtor.mol_from_trimer_tie
#print axioms PV.Proofs.TieCtor.lj_from_trimer_tie
#print axioms PV.Proofs.TieCtor.foldlM_push
#print axioms PV.Proofs.TieCtor.filterMap_range_index
#print axioms PV.Proofs.TieCtor.cycleTake_length
#print axioms PV.Proofs.TieCtor.cycleTake_one
#print axioms PV.Proofs.TieCtor.line2_new_tie
#print axioms PV.Proofs.TieCtor.from_radial_loop_tie
#print axioms PV.Proofs.TieCtor.from_radial_tie
#print axioms PV.Proofs.TieCtor.polygon_tie
