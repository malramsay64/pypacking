import Proofs.C15
import Proofs.TieWrap
import Proofs.TieSite
import Proofs.SrcC15
#print axioms PV.Proofs.C15.declared_wrap_constants
#print axioms PV.Proofs.C15.wrap_range
#print axioms PV.Proofs.C15.wrap_congr
#print axioms PV.Proofs.C15.wrap_periodic
#print axioms PV.Proofs.C15.wrap_id_on_cell
#print axioms PV.Proofs.C15.period_eval
#print axioms PV.Proofs.C15.offset_eval
#print axioms PV.Proofs.C15.positions_eq
#print axioms PV.Proofs.C15.placed
#print axioms PV.Proofs.C15.positions_length
#print axioms PV.Proofs.C15.positions_spec
#print axioms PV.Proofs.C15.site_lattice_invariant
#print axioms PV.Proofs.C15.tables_integral
#print axioms PV.Proofs.Tie.declared_translated_wrap
#print axioms PV.Proofs.Tie.periodic_position_tie
#print axioms PV.Proofs.Tie.declared_translated_site
#print axioms PV.Proofs.Tie.site_transform_tie
#print axioms PV.Proofs.Tie.site_multiplicity_tie
#print axioms PV.Proofs.Tie.site_positions_tie
#print axioms PV.Proofs.Source.C15_source_count
