import Proofs.C09
import Proofs.TieCmp
#print axioms PV.Proofs.C09.declared_isolation
#print axioms PV.Proofs.C09.declared_reduction
#print axioms PV.Proofs.C09.seed_only
#print axioms PV.Proofs.C09.stages_seeded
#print axioms PV.Proofs.C09.sharedStep_eq
#print axioms PV.Proofs.C09.map_setIfInBounds_of_eq
#print axioms PV.Proofs.C09.mem_addrs_of_get
#print axioms PV.Proofs.C09.sharedStep_frame
#print axioms PV.Proofs.C09.sharedStep_local
#print axioms PV.Proofs.C09.addrs_step
#print axioms PV.Proofs.C09.runSched_frame
#print axioms PV.Proofs.C09.runSched_solo
#print axioms PV.Proofs.C09.noninterference
#print axioms PV.Proofs.C09.cli_deterministic
#print axioms PV.Proofs.TieCmp.packed_partial_cmp_tie
#print axioms PV.Proofs.TieCmp.packed_cmp_tie
#print axioms PV.Proofs.TieCmp.potential_partial_cmp_tie
#print axioms PV.Proofs.TieCmp.potential_cmp_tie
#print axioms PV.Proofs.TieCmp.packed_eq_tie
#print axioms PV.Proofs.TieCmp.potential_eq_tie
#print axioms PV.Proofs.TieCmp.maxRight_eq_maxByCmp
#print axioms PV.Proofs.TieCmp.maxRight_packed
#print axioms PV.Proofs.TieCmp.maxRight_potential
