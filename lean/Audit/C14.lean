import Proofs.C14
import Proofs.TieCell
import Proofs.TieImages
import Proofs.SrcC14
#print axioms PV.Proofs.C14.toCart_linear
#print axioms PV.Proofs.C14.toCart_add
#print axioms PV.Proofs.C14.apply_affine
#print axioms PV.Proofs.C14.position_of
#print axioms PV.Proofs.C14.position_affine
#print axioms PV.Proofs.C14.isometry_keeps_linear
#print axioms PV.Proofs.C14.translate_eq
#print axioms PV.Proofs.C14.isometry_eq
#print axioms PV.Proofs.C14.isometry_eq_translate
#print axioms PV.Proofs.C14.mem_shellRange
#print axioms PV.Proofs.C14.nodup_shellRange
#print axioms PV.Proofs.C14.length_shellRange
#print axioms PV.Proofs.C14.imageIndices_eq
#print axioms PV.Proofs.C14.mem_imageIndices
#print axioms PV.Proofs.C14.nodup_imageIndices
#print axioms PV.Proofs.C14.imageIndices_true_perm
#print axioms PV.Proofs.C14.length_imageIndices
#print axioms PV.Proofs.C14.images_spec
#print axioms PV.Proofs.C14.images_are_translates
#print axioms PV.Proofs.C14.area_eq_cross
#print axioms PV.Proofs.C14.area_eq_abs_cross
#print axioms PV.Proofs.C14.corners_spec
#print axioms PV.Proofs.Tie.declared_translated_cell
#print axioms PV.Proofs.Tie.cell_a_tie
#print axioms PV.Proofs.Tie.cell_b_tie
#print axioms PV.Proofs.Tie.cell_angle_tie
#print axioms PV.Proofs.Tie.cell_area_tie
#print axioms PV.Proofs.Tie.cell_to_cartesian_tie
#print axioms PV.Proofs.Tie.declared_translated_images
#print axioms PV.Proofs.Tie.to_cartesian_point_tie
#print axioms PV.Proofs.Tie.to_cartesian_isometry_tie
#print axioms PV.Proofs.Tie.to_cartesian_translate_tie
#print axioms PV.Proofs.Tie.periodic_images_tie
#print axioms PV.Proofs.Source.C14_source_images
#print axioms PV.Proofs.Source.C14_source_area
