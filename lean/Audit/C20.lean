import Proofs.C20
import Proofs.TieBuild
import Proofs.TieLoopTail
import Proofs.TieBasis
import Proofs.SrcC20
#print axioms PV.Proofs.C20.build_inner_pos
#print axioms PV.Proofs.C20.build_ok
#print axioms PV.Proofs.C20.work_exact
#print axioms PV.Proofs.C20.work_upper
#print axioms PV.Proofs.C20.convergence_prefix
#print axioms PV.Proofs.C20.converged_needs_six
#print axioms PV.Proofs.C20.no_panic
#print axioms PV.Proofs.C20.panic_sites
#print axioms PV.Proofs.C20.declared_panic_sites
#print axioms PV.Proofs.Tie.declared_translated_build
#print axioms PV.Proofs.Tie.build_tie
#print axioms PV.Proofs.Tie.build_inner_tie
#print axioms PV.Proofs.Tie.build_loops_tie
#print axioms PV.Proofs.Tie.build_kt_ratio_tie
#print axioms PV.Proofs.Tie.declared_translated_looptail
#print axioms PV.Proofs.Tie.loop_tail_eq
#print axioms PV.Proofs.Tie.loop_tail_tie
#print axioms PV.Proofs.Tie.loop_tail_frame
#print axioms PV.Proofs.Tie.declared_translated_basis
#print axioms PV.Proofs.Tie.value_range_tie
#print axioms PV.Proofs.Tie.clamped_tie
#print axioms PV.Proofs.Tie.sample_tie
#print axioms PV.Proofs.Source.C20_source_inner_pos
