import Proofs.C17
import Proofs.TieParse
import Proofs.SrcC17
#print axioms PV.Proofs.C17.Comp.wf_iff
#print axioms PV.Proofs.C17.lex_digitChar
#print axioms PV.Proofs.C17.run_spaces
#print axioms PV.Proofs.C17.run_sign
#print axioms PV.Proofs.C17.run_term
#print axioms PV.Proofs.C17.run_comp
#print axioms PV.Proofs.C17.Term.eval_eq
#print axioms PV.Proofs.C17.Comp.eval_eq
#print axioms PV.Proofs.C17.Term.coeff_zero
#print axioms PV.Proofs.C17.foldl_overwrite
#print axioms PV.Proofs.C17.parseRow_comp
#print axioms PV.Proofs.C17.Comp.render_ne_nil
#print axioms PV.Proofs.C17.split_render
#print axioms PV.Proofs.C17.grammar_sound
#print axioms PV.Proofs.C17.total
#print axioms PV.Proofs.C17.inAlphabet_eq
#print axioms PV.Proofs.C17.invalid_char_reported
#print axioms PV.Proofs.C17.too_few
#print axioms PV.Proofs.C17.too_many
#print axioms PV.Proofs.C17.alphabet_accepted
#print axioms PV.Proofs.C17.declared_panic_sites
#print axioms PV.Proofs.TieParse.foldlM_pair
#print axioms PV.Proofs.TieParse.emb_set0
#print axioms PV.Proofs.TieParse.emb_set1
#print axioms PV.Proofs.TieParse.act_okOp
#print axioms PV.Proofs.TieParse.loop1_eq
#print axioms PV.Proofs.TieParse.foldlM_loop1
#print axioms PV.Proofs.TieParse.loop2_eq
#print axioms PV.Proofs.TieParse.declared_translated_parse
#print axioms PV.Proofs.TieParse.trimMatches_braces
#print axioms PV.Proofs.TieParse.from_operations_tie
#print axioms PV.Proofs.Source.C17_source_grammar_sound
#print axioms PV.Proofs.Source.C17_source_too_few
#print axioms PV.Proofs.Source.C17_source_too_many
