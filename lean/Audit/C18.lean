import Proofs.C18
import Proofs.TieBuild
import Proofs.TieLoopTail
import Proofs.SrcC18
#print axioms PV.Proofs.C18.kt_in_loop
#print axioms PV.Proofs.C18.loops_in_order
#print axioms PV.Proofs.C18.factor_ratio
#print axioms PV.Proofs.C18.build_finish
#print axioms PV.Proofs.C18.factor_finish
#print axioms PV.Proofs.C18.last_loop_temperature
#print axioms PV.Proofs.C18.zero_stays_zero
#print axioms PV.Proofs.Tie.declared_translated_build
#print axioms PV.Proofs.Tie.build_tie
#print axioms PV.Proofs.Tie.build_inner_tie
#print axioms PV.Proofs.Tie.build_loops_tie
#print axioms PV.Proofs.Tie.build_kt_ratio_tie
#print axioms PV.Proofs.Tie.declared_translated_looptail
#print axioms PV.Proofs.Tie.loop_tail_eq
#print axioms PV.Proofs.Tie.loop_tail_tie
#print axioms PV.Proofs.Tie.loop_tail_frame
#print axioms PV.Proofs.Source.C18_source_factor_ratio
#print axioms PV.Proofs.Source.C18_source_factor_finish
