/-
  Lemmas/TieTactics.lean — what the translator-tie theorems (Proofs/Tie*.lean) close with.

  After both sides of a tie are unfolded the goal is an equation between two terms over ℝ that differ, if
  at all, by what a harmless rewrite of the source produces: `x * x` for `powi(2)`, a re-associated or
  commuted product, a renamed or inlined `let`, a call inlined, an `if` with its arms swapped under the
  negated test.  `tie_close` (at the end) absorbs these and fails on a change of the computed function.  Its
  simp set `tie` (Lemmas/TieAttr.lean) is filled here, in Lemmas/ListSums.lean and, as they are proved, with the tie
  theorems themselves.
-/
import Lemmas.TieAttr
import Lemmas.RealCarrier
import Model.Shapes
import Model.Basis
import Mathlib.Tactic.Ring
import Mathlib.Tactic.SplitIfs

namespace PV

-- the bound on a literal exponent is discharged by evaluation
attribute [tie] powi_eq_pow
attribute [tie_proc] Nat.reducePow Nat.reduceLT

attribute [tie] normSq dist sc0 sc1 zero toRadians q_real sin_real cos_real exp_real sqrt_real acos_real powf_real pi_real
  fmin_real fmax_real fabs_real Nat.cast_ofNat Nat.cast_one Nat.cast_zero

/-- `if c { continue; } …` in a search; the negation stays inside `decide`, where the next two lemmas turn
`if d > r { continue; }` into the test `d ≤ r` -/
@[tie]
theorem ite_false_left' (c : Prop) [Decidable c] (x : Bool) : (if c then false else x) = (decide (¬ c) && x) := by
  by_cases h : c <;> simp [h]

@[tie]
theorem decide_not_lt (a b : ℝ) : decide (¬ a < b) = decide (b ≤ a) := by
  simp only [not_lt]

@[tie]
theorem decide_not_le (a b : ℝ) : decide (¬ a ≤ b) = decide (b < a) := by
  simp only [not_le]

-- Bool-valued tests and searches in one normal form (`decide c || x`, `decide c && x`), whichever way the
-- source writes them: `if c { return true; } … false`, nested `if`s, `&&`, `any`
attribute [tie] Bool.if_true_left Bool.if_false_right Bool.decide_eq_true Bool.decide_and Bool.and_true Bool.or_false
  decide_eq_true_eq

-- a generated constant the model evaluates (`Generated.*`, unfolded where it is used) is a literal
attribute [tie] BExpr.eval Bool.false_eq_true
attribute [tie_proc] Nat.reduceBEq reduceIte

-- `map`s fused or not, and over a `vec!` literal
attribute [tie] List.map_map Function.comp_def List.map_cons List.map_nil

end PV

/-- the closing step of a tie, after both definitions are unfolded: rewrite translated callees to the model's
functions and expand the model's scalar helpers (simp set `tie`, and what the call lists besides: a model
function that the source may have inlined, a generated constant, the pair-loop lemma at the list in hand),
split on the tests of both sides, and compare the values branch by branch as ring expressions (`ring_nf`
also works under binders and closes a goal whose sides coincide).  Each of the first two steps may have
nothing to do. -/
syntax "tie_close" (" [" Lean.Parser.Tactic.simpLemma,* "]")? : tactic
macro_rules
  | `(tactic| tie_close) => `(tactic| tie_close [])
  | `(tactic| tie_close [$ls,*]) => `(tactic| ((try simp only [tie, $ls,*]) <;> (try split_ifs) <;> ring_nf))
