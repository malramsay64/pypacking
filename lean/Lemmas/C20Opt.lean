/-
  Lemmas/C20Opt.lean — what Proofs/C20 needs beyond the loop rules of Lemmas/Optimiser: the run with
  a convergence threshold against the run without one, the convergence counter against the gains
  of the last loops, and that no loop panics.  None of that uses a law of the carrier, so it holds of
  the runs at `Float` as well.  The first four declarations (`stepOnce_conv`, `afterSt`,
  `afterSt_conv`, `afterSt_eq_cool`) state at ℝ, one step at a time, what a changed threshold leaves
  alone; the run lemmas below derive the same for any carrier and do not use them.
-/
import Lemmas.RealCarrier
import Lemmas.Optimiser

namespace PV.C20L
open PV

variable {G : Type}

theorem stepOnce_conv (score : Nat → Array ℝ → Option ℝ) (c : Cfg ℝ) (x : Option ℝ) :
    stepOnce score { c with convergence := x } = stepOnce score c := rfl

/-- the state `afterLoop` hands to the next loop -/
noncomputable def afterSt (c : Cfg ℝ) (st : OptSt ℝ) : OptSt ℝ :=
  { st with
    kt := st.kt * c.ktRatio
    ratio :=
      if q 1 10000 < st.ratio then
        fmin (st.ratio * (((c.inner : Nat) : ℝ) / (((st.loopRej : Nat) : ℝ) + ((1 : Nat) : ℝ))))
          ((1 : Nat) : ℝ)
      else st.ratio }

theorem afterSt_conv (c : Cfg ℝ) (x : Option ℝ) (st : OptSt ℝ) :
    afterSt { c with convergence := x } st = afterSt c st := rfl

theorem afterSt_eq_cool (c : Cfg ℝ) (st : OptSt ℝ) : afterSt c st = cool c st false := rfl

variable {α : Type} [Add α] [Sub α] [Mul α] [Div α] [LT α] [DecidableLT α] [LE α] [DecidableLE α]
  [BEq α] [NatCast α] [Transc α] [FMin α]

theorem runInner_conv (score : Nat → Array α → Option α) (c : Cfg α) (x : Option α)
    (next : Nat → G → (Nat × α × α) × G) (loop k : Nat) (st : OptSt α) (g : G) (evs : List (Ev α)) :
    runInner score { c with convergence := x } next loop k st g evs
      = runInner score c next loop k st g evs := by
  induction k generalizing st g evs with
  | zero => rfl
  | succ k ih =>
    have e : stepOnce score { c with convergence := x } = stepOnce score c := rfl
    simp only [runInner_succ, e]
    split
    · rfl
    · exact ih ..

theorem runOuter_suffix {score : Nat → Array α → Option α} {c : Cfg α}
    {next : Nat → G → (Nat × α × α) × G} {k loop conv : Nat} {st st' : OptSt α} {g : G}
    {evs evs' : List (Ev α)} {b : Bool}
    (h : runOuter score c next k loop conv st g evs = .ok (st', evs', b)) : evs <:+ evs' :=
  (runOuter_inv (P := fun _ _ log => evs.reverse <+: log)
    (fun hP _ => hP.trans (List.prefix_append _ _)) id (fun _ => id) h (List.prefix_refl _)).elim
    fun _ hP => List.reverse_prefix.1 hP

/-- the run with a threshold stops where the run without one goes on; the logs are kept newest
first, so the shorter one is a list SUFFIX of the longer -/
theorem runOuter_prefix (score : Nat → Array α → Option α) (c : Cfg α) (p : α)
    (next : Nat → G → (Nat × α × α) × G) :
    ∀ {k loop conv conv' : Nat} {st : OptSt α} {g : G} {evs : List (Ev α)} {st1 : OptSt α}
      {evs1 : List (Ev α)} {b1 : Bool} {st0 : OptSt α} {evs0 : List (Ev α)} {b0 : Bool},
      runOuter score { c with convergence := some p } next k loop conv st g evs = .ok (st1, evs1, b1) →
      runOuter score { c with convergence := none } next k loop conv' st g evs = .ok (st0, evs0, b0) →
      evs1 <:+ evs0 := by
  intro k
  induction k with
  | zero =>
    intro loop conv conv' st g evs st1 evs1 b1 st0 evs0 b0 h h'
    cases h
    cases h'
    exact List.suffix_refl _
  | succ k ih =>
    intro loop conv conv' st g evs st1 evs1 b1 st0 evs0 b0 h h'
    simp only [runOuter_succ, runInner_conv] at h h'
    split at h
    · cases h
    · next st' g' evs' hr =>
      simp only [hr] at h'
      -- the bookkeeping differs in the counter alone, and without a threshold it never stops
      change runOuter _ _ next k (loop + 1) conv' (cool { c with convergence := some p } st' false)
        g' evs' = _ at h'
      split at h
      · cases h
        exact runOuter_suffix h'
      · exact ih h h'

def curAfter {α : Type} (s0 : α) (F : List (Ev α)) (k : Nat) : α :=
  if k = 0 then s0 else ((F[k - 1]?).map (·.cur)).getD s0

theorem curAfter_append {α : Type} (s0 : α) {F : List (Ev α)} (X : List (Ev α)) {k : Nat}
    (hk : k ≤ F.length) : curAfter s0 (F ++ X) k = curAfter s0 F k := by
  unfold curAfter
  split
  · rfl
  · rw [List.getElem?_append_left (by omega)]

theorem curAfter_snoc {α : Type} (s0 : α) (F : List (Ev α)) (e : Ev α) :
    curAfter s0 (F ++ [e]) (F ++ [e]).length = e.cur := by
  simp [curAfter]

/-- at ℝ this is the `loopGain` of Proofs/C20.lean, by unfolding -/
def gain {α : Type} [Sub α] (s0 : α) (inner : Nat) (F : List (Ev α)) (l : Nat) : α :=
  curAfter s0 F ((l + 1) * inner) - curAfter s0 F (l * inner)

theorem gain_append {α : Type} [Sub α] (s0 : α) {inner : Nat} {F : List (Ev α)} (X : List (Ev α))
    {l : Nat} (h : (l + 1) * inner ≤ F.length) :
    gain s0 inner (F ++ X) l = gain s0 inner F l := by
  have : l * inner ≤ (l + 1) * inner := Nat.mul_le_mul_right _ (by omega)
  unfold gain
  rw [curAfter_append _ _ h, curAfter_append _ _ (by omega)]

/-- between two loops; `gains`: each of the last `conv` loops gained less than `p` -/
structure OuterInv (s0 p : α) (inner loop conv : Nat) (stop : Bool) (st : OptSt α)
    (log : List (Ev α)) : Prop where
  len : log.length = loop * inner
  tracked : st.cur = curAfter s0 log log.length
  conv_le : conv ≤ loop
  gains : ∀ l, loop ≤ l + conv → l < loop → gain s0 inner log l < p
  six_of_stop : stop = true → 5 < conv

theorem OuterInv.loop {score : Nat → Array α → Option α} {c : Cfg α}
    {next : Nat → G → (Nat × α × α) × G} {p : α} (hp : c.convergence = some p) {s0 : α}
    {loop conv : Nat} {st st1 : OptSt α} {g g1 : G} {evs evs1 : List (Ev α)}
    (inv : OuterInv s0 p c.inner loop conv false st evs.reverse)
    (hin : runInner score c next loop c.inner { st with loopRej := 0 } g evs = .ok (st1, g1, evs1)) :
    OuterInv s0 p c.inner (loop + 1) (convStep c st.cur st1.cur conv).1
      (convStep c st.cur st1.cur conv).2 (cool c st1 (convStep c st.cur st1.cur conv).2)
      evs1.reverse := by
  have hP := runInner_ind
    (P := fun k st' log => evs.reverse <+: log ∧
      log.length + k = (loop + 1) * c.inner ∧ st'.cur = curAfter s0 log log.length)
    ?step hin ⟨List.prefix_refl _, by rw [inv.len, Nat.succ_mul], inv.tracked⟩
  case step =>
    rintro k st g log st' ev ⟨hpre, hlen, -⟩ s
    refine ⟨hpre.trans (List.prefix_append _ _), ?_, by rw [curAfter_snoc, s.cur]⟩
    rw [List.length_append, List.length_singleton, Nat.add_assoc, Nat.add_comm 1 k]
    exact hlen
  obtain ⟨⟨new, hnew⟩, hlen1, htr1⟩ := hP
  rw [← hnew, Nat.add_zero] at hlen1
  rw [← hnew] at htr1 ⊢
  have hgain : gain s0 c.inner (evs.reverse ++ new) loop = st1.cur - st.cur := by
    unfold gain
    rw [← hlen1, ← htr1, curAfter_append _ _ inv.len.ge, ← inv.len, ← inv.tracked]
  have hold : ∀ l < loop, gain s0 c.inner (evs.reverse ++ new) l = gain s0 c.inner evs.reverse l :=
    fun l hl => gain_append _ _ (inv.len ▸ Nat.mul_le_mul_right _ hl)
  have hle := inv.conv_le
  by_cases hlt : st1.cur - st.cur < p
  · simp only [convStep, hp, hlt, if_true]
    refine ⟨hlen1, htr1, by omega, fun l h1 h2 => ?_, by simp⟩
    rcases Nat.lt_succ_iff_lt_or_eq.1 h2 with h2 | rfl
    · rw [hold l h2]
      exact inv.gains l (by omega) h2
    · rw [hgain]
      exact hlt
  · simp only [convStep, hp, hlt, if_false]
    exact ⟨hlen1, htr1, by omega, fun l h1 h2 => by omega, nofun⟩

section
variable {score : Nat → Array α → Option α} {c : Cfg α} {next : Nat → G → (Nat × α × α) × G}
  (hidx : ∀ n g, 0 < n → (next n g).1.1 < n)
include hidx

theorem runInner_no_panic (loop : Nat) :
    ∀ (k : Nat) (st : OptSt α) (g : G) (evs : List (Ev α)), 0 < st.hs.size →
      ∃ st' g' evs', runInner score c next loop k st g evs = .ok (st', g', evs') ∧
        st'.hs.size = st.hs.size := by
  intro k
  induction k with
  | zero => exact fun st g evs _ => ⟨st, g, evs, rfl, rfl⟩
  | succ k ih =>
    intro st g evs hpos
    obtain ⟨st1, ev, hstep⟩ := stepOnce_ok_of_lt (score := score) (c := c) loop (hidx _ g hpos)
    have hsz : st1.hs.size = st.hs.size := by simp [(stepOnce_spec hstep).st_hs]
    obtain ⟨st', g', evs', hrun, hsz'⟩ := ih st1 (next st.hs.size g).2 (ev :: evs) (hsz ▸ hpos)
    rw [runInner_succ, hstep]
    exact ⟨st', g', evs', hrun, hsz'.trans hsz⟩

theorem runOuter_no_panic :
    ∀ (k loop conv : Nat) (st : OptSt α) (g : G) (evs : List (Ev α)), 0 < st.hs.size →
      ∃ res, runOuter score c next k loop conv st g evs = .ok res := by
  intro k
  induction k with
  | zero => exact fun loop conv st g evs _ => ⟨_, rfl⟩
  | succ k ih =>
    intro loop conv st g evs hpos
    obtain ⟨st1, g1, evs1, hrun, hsz⟩ :=
      runInner_no_panic hidx loop c.inner { st with loopRej := 0 } g evs hpos
    rw [runOuter_succ, hrun]
    simp only
    split
    · exact ⟨_, rfl⟩
    · exact ih _ _ (cool c st1 false) _ _ (hsz ▸ hpos)

end

end PV.C20L
