/-
  Lemmas/Optimiser.lean — the lemmas through which proofs use `Model/Optimiser.lean` without
  unfolding it, for an arbitrary carrier (no Mathlib): what one step does (`Step`), the bookkeeping
  between two inner loops in closed form, one induction rule per loop, and when `optimise` and
  `build` return normally.
-/
import Model.Optimiser

namespace PV

section heap
variable {α : Type} [NatCast α]

theorem hget_eq (heap : Array α) (i : Nat) : hget heap i = (heap[i]?).getD zero := by
  simp [hget]

theorem hget_setIfInBounds_ne (heap : Array α) {a i : Nat} (v : α) (h : i ≠ a) :
    hget (heap.setIfInBounds a v) i = hget heap i := by
  rw [hget_eq, hget_eq, Array.getElem?_setIfInBounds_ne (Ne.symm h)]

theorem hget_setIfInBounds_self (heap : Array α) {a : Nat} (v : α) (h : a < heap.size) :
    hget (heap.setIfInBounds a v) a = v := by
  rw [hget_eq, Array.getElem?_setIfInBounds_self_of_lt h]
  rfl

theorem setIfInBounds_hget_cancel (heap : Array α) (a : Nat) (v : α) :
    (heap.setIfInBounds a v).setIfInBounds a (hget heap a) = heap := by
  apply Array.ext_getElem?
  intro i
  by_cases hi : a = i
  · subst hi
    by_cases ha : a < heap.size
    · simp [hget_eq, ha]
    · simp [ha]
  · simp [hi]

theorem Handle.resetValue_setValue [LT α] [DecidableLT α] (h : Handle α) (heap : Array α) (v : α) :
    (h.setValue heap v).1.resetValue (h.setValue heap v).2 = heap :=
  setIfInBounds_hget_cancel heap h.addr _

end heap

def SameCells {α : Type} (hs0 hs : Array (Handle α)) : Prop :=
  hs.size = hs0.size ∧ ∀ i (h0 : i < hs0.size) (h : i < hs.size),
    hs[i].addr = hs0[i].addr ∧ hs[i].min = hs0[i].min ∧ hs[i].max = hs0[i].max

theorem SameCells.refl {α : Type} (hs : Array (Handle α)) : SameCells hs hs :=
  ⟨rfl, fun _ _ _ => ⟨rfl, rfl, rfl⟩⟩

section accept
variable {α : Type} [Sub α] [Div α] [LT α] [DecidableLT α] [LE α] [DecidableLE α] [BEq α]
  [NatCast α] [Transc α] [FMin α]

theorem acceptScore_eq_some {new : Option α} {old kt thr s : α}
    (h : acceptScore new old kt thr = some s) : new = some s := by
  unfold acceptScore at h
  split at h
  · split at h
    · cases h
    · split at h
      · exact h
      · split at h
        · exact h
        · cases h
  · cases h

/-- at a temperature that is not positive the rule is hill climbing: no exponential, the surface is
`1` or `0` -/
theorem acceptScore_of_not_pos (n old kt thr : α) (hkt : ¬ (zero < kt)) :
    acceptScore (some n) old kt thr =
      if !(n == n) then none
      else if old < n then some n
      else if decide (thr < (if old ≤ n then ((1 : Nat) : α) else zero)) then some n else none := by
  simp [acceptScore, testAcceptance, energySurface, hkt]
end accept

section build
variable {α : Type} [Sub α] [Div α] [LT α] [DecidableLT α] [NatCast α] [Transc α]

theorem Builder.build_eq_ok_iff {b : Builder α} {c : Cfg α} :
    b.build = .ok c ↔ ∃ seed, b.seed = some seed ∧
      c = { ktStart := b.ktStart
            ktRatio :=
              match b.ktRatio, b.ktFinish with
              | some r, _ => ((1 : Nat) : α) - r
              | none, some f =>
                if ¬ (zero < b.ktStart) then ((1 : Nat) : α)
                else powf (f / b.ktStart) (((1 : Nat) : α) /
                  ((Nat.max (b.steps / Nat.max (Nat.min b.inner b.steps) 1) 1 : Nat) : α))
              | none, none => q 1 10
            maxStep := b.maxStep, steps := b.steps,
            inner := Nat.max (Nat.min b.inner b.steps) 1, seed := seed,
            convergence := b.convergence } := by
  unfold Builder.build
  cases b.seed with
  | none => simp
  | some seed =>
    simp only [Outcome.ok.injEq, Option.some.injEq, exists_eq_left', eq_comm (a := c)]
    exact Iff.rfl

end build

section step
variable {α : Type} [Add α] [Sub α] [Mul α] [Div α] [LT α] [DecidableLT α] [LE α] [DecidableLE α]
  [BEq α] [NatCast α] [Transc α] [FMin α]

/-- What a successful step does: the proposal is scored, then either kept together with its score,
or the heap is put back as it was and a rejection is counted. -/
structure Step (score : Nat → Array α → Option α) (c : Cfg α) (loop : Nat) (st : OptSt α)
    (d : Nat × α × α) (st' : OptSt α) (ev : Ev α) : Prop where
  idx_lt : d.1 < st.hs.size
  st_hs : st'.hs = st.hs.setIfInBounds d.1 { st.hs[d.1] with old := hget st.heap st.hs[d.1].addr }
  st_kt : st'.kt = st.kt
  st_ratio : st'.ratio = st.ratio
  st_calls : st'.calls = st.calls + 1
  loop : ev.loop = loop
  idx : ev.idx = d.1
  before : ev.before = st.heap
  proposal : ev.proposal = (st.hs[d.1].setSampled st.heap ev.stepSize d.2.1).2
  after : ev.after = st'.heap
  new : ev.new = score st.calls ev.proposal
  cur : ev.cur = st'.cur
  kt : ev.kt = st.kt
  stepSize : ev.stepSize = c.maxStep * st.ratio
  thr : ev.thr = d.2.2
  verdict :
    (ev.accepted = true ∧ acceptScore ev.new st.cur st.kt d.2.2 = some st'.cur ∧
      st'.heap = ev.proposal ∧ st'.loopRej = st.loopRej) ∨
    (ev.accepted = false ∧ acceptScore ev.new st.cur st.kt d.2.2 = none ∧
      st'.heap = st.heap ∧ st'.cur = st.cur ∧ st'.loopRej = st.loopRej + 1)

variable {score : Nat → Array α → Option α} {c : Cfg α}

theorem stepOnce_spec {loop : Nat} {st : OptSt α} {d : Nat × α × α} {st' : OptSt α} {ev : Ev α}
    (h : stepOnce score c loop st d = .ok (st', ev)) : Step score c loop st d st' ev := by
  obtain ⟨idx, sdraw, thr⟩ := d
  unfold stepOnce at h
  simp only at h
  split at h
  · cases h
  · next hd hhd =>
    obtain ⟨lt, rfl⟩ := Array.getElem?_eq_some_iff.1 hhd
    split at h
    · next s hs =>
      cases h
      exact ⟨lt, rfl, rfl, rfl, rfl, rfl, rfl, rfl, rfl, rfl, rfl, rfl, rfl, rfl, rfl,
        .inl ⟨rfl, hs, rfl, rfl⟩⟩
    · next hs =>
      cases h
      exact ⟨lt, rfl, rfl, rfl, rfl, rfl, rfl, rfl, rfl, rfl, rfl, rfl, rfl, rfl, rfl,
        .inr ⟨rfl, hs, Handle.resetValue_setValue .., rfl, rfl⟩⟩

theorem Step.sameCells {hs0 : Array (Handle α)} {loop : Nat} {st : OptSt α} {d : Nat × α × α}
    {st' : OptSt α} {ev : Ev α} (s : Step score c loop st d st' ev) (h : SameCells hs0 st.hs) :
    SameCells hs0 st'.hs := by
  rw [s.st_hs]
  refine ⟨Array.size_setIfInBounds.trans h.1, fun i h0 hi => ?_⟩
  rw [Array.getElem_setIfInBounds (by simpa using hi)]
  split
  · next hii =>
    subst hii
    exact h.2 _ h0 s.idx_lt
  · exact h.2 i h0 _

theorem stepOnce_ok_of_lt (loop : Nat) {st : OptSt α} {d : Nat × α × α} (h : d.1 < st.hs.size) :
    ∃ st' ev, stepOnce score c loop st d = .ok (st', ev) := by
  obtain ⟨idx, sdraw, thr⟩ := d
  simp only [stepOnce, Array.getElem?_eq_getElem h]
  split
  · exact ⟨_, _, rfl⟩
  · exact ⟨_, _, rfl⟩

variable {G : Type} {next : Nat → G → (Nat × α × α) × G}

theorem runInner_succ (loop k : Nat) (st : OptSt α) (g : G) (evs : List (Ev α)) :
    runInner score c next loop (k + 1) st g evs =
      match stepOnce score c loop st (next st.hs.size g).1 with
      | .panic p => .panic p
      | .ok (st', ev) => runInner score c next loop k st' (next st.hs.size g).2 (ev :: evs) := rfl

/-- `P k st log` speaks of the state with `k` steps still to run and the events so far in order (the
loops accumulate them newest first). -/
theorem runInner_ind {loop : Nat} {P : Nat → OptSt α → List (Ev α) → Prop}
    (hstep : ∀ {k st g log st' ev}, P (k + 1) st log →
      Step score c loop st (next st.hs.size g).1 st' ev → P k st' (log ++ [ev])) :
    ∀ {k st g evs st' g' evs'}, runInner score c next loop k st g evs = .ok (st', g', evs') →
      P k st evs.reverse → P 0 st' evs'.reverse := by
  intro k
  induction k with
  | zero =>
    intro st g evs st' g' evs' h hP
    cases h
    exact hP
  | succ k ih =>
    intro st g evs st' g' evs' h hP
    rw [runInner_succ] at h
    split at h
    · cases h
    · next hs => exact ih h (List.reverse_cons ▸ hstep hP (stepOnce_spec hs))

end step

section after
variable {α : Type} [Add α] [Sub α] [Mul α] [Div α] [LT α] [DecidableLT α] [NatCast α] [FMin α]

/-- the convergence counter and the early-exit flag after a loop that took the tracked score from
`s` to `cur` -/
def convStep (c : Cfg α) (s cur : α) (conv : Nat) : Nat × Bool :=
  match c.convergence with
  | some precision => if cur - s < precision then (conv + 1, decide (conv + 1 > 5)) else (0, false)
  | none => (conv, false)

def adaptedRatio (c : Cfg α) (st : OptSt α) : α :=
  if q 1 10000 < st.ratio then
    fmin (st.ratio * (((c.inner : Nat) : α) / (((st.loopRej : Nat) : α) + ((1 : Nat) : α))))
      ((1 : Nat) : α)
  else st.ratio

def cool (c : Cfg α) (st : OptSt α) (stop : Bool) : OptSt α :=
  { st with kt := st.kt * c.ktRatio, ratio := if stop then st.ratio else adaptedRatio c st }

theorem afterLoop_eq (c : Cfg α) (s : α) (conv : Nat) (st : OptSt α) :
    afterLoop c s conv st = (cool c st (convStep c s st.cur conv).2, convStep c s st.cur conv) := by
  unfold afterLoop convStep cool adaptedRatio
  cases c.convergence with
  | none => rfl
  | some p =>
    simp only
    split
    · cases decide (conv + 1 > 5) <;> rfl
    · rfl

end after

section run
variable {α : Type} [Add α] [Sub α] [Mul α] [Div α] [LT α] [DecidableLT α] [LE α] [DecidableLE α]
  [BEq α] [NatCast α] [Transc α] [FMin α]
variable {score : Nat → Array α → Option α} {c : Cfg α}
variable {G : Type} {next : Nat → G → (Nat × α × α) × G}

theorem runOuter_succ (k loop conv : Nat) (st : OptSt α) (g : G) (evs : List (Ev α)) :
    runOuter score c next (k + 1) loop conv st g evs =
      match runInner score c next loop c.inner { st with loopRej := 0 } g evs with
      | .panic p => .panic p
      | .ok (st1, g1, evs1) =>
        if (convStep c st.cur st1.cur conv).2 then .ok (cool c st1 true, evs1, true)
        else runOuter score c next k (loop + 1) (convStep c st.cur st1.cur conv).1
          (cool c st1 false) g1 evs1 := by
  simp only [runOuter, afterLoop_eq]
  cases runInner score c next loop c.inner { st with loopRej := 0 } g evs with
  | panic p => rfl
  | ok res =>
    simp only
    cases (convStep c st.cur res.1.cur conv).2 <;> rfl

/-- `Q loop conv stop st log` speaks of the state between two inner loops: index of the next loop,
convergence counter, whether the run stops here, state, events so far in order.  Of the `k` loops
asked for, `m` were run. -/
theorem runOuter_ind {Q : Nat → Nat → Bool → OptSt α → List (Ev α) → Prop}
    (hloop : ∀ {loop conv st g evs st1 g1 evs1}, Q loop conv false st evs.reverse →
      runInner score c next loop c.inner { st with loopRej := 0 } g evs = .ok (st1, g1, evs1) →
      Q (loop + 1) (convStep c st.cur st1.cur conv).1 (convStep c st.cur st1.cur conv).2
        (cool c st1 (convStep c st.cur st1.cur conv).2) evs1.reverse) :
    ∀ {k loop conv st g evs st' evs' b},
      runOuter score c next k loop conv st g evs = .ok (st', evs', b) →
      Q loop conv false st evs.reverse →
      ∃ m conv', m ≤ k ∧ (b = false → m = k) ∧ Q (loop + m) conv' b st' evs'.reverse := by
  intro k
  induction k with
  | zero =>
    intro loop conv st g evs st' evs' b h hQ
    cases h
    exact ⟨0, conv, Nat.le_refl 0, fun _ => rfl, hQ⟩
  | succ k ih =>
    intro loop conv st g evs st' evs' b h hQ
    rw [runOuter_succ] at h
    split at h
    · cases h
    · next st1 g1 evs1 hin =>
      have hQ1 := hloop hQ hin
      split at h
      · next hstop =>
        cases h
        rw [hstop] at hQ1
        exact ⟨1, _, Nat.succ_le_succ (Nat.zero_le k), nofun, hQ1⟩
      · next hstop =>
        rw [Bool.not_eq_true] at hstop
        rw [hstop] at hQ1
        obtain ⟨m, conv', hm, hb, hQ'⟩ := ih h hQ1
        exact ⟨m + 1, conv', Nat.succ_le_succ hm, fun e => congrArg (· + 1) (hb e),
          by rwa [Nat.add_assoc, Nat.add_comm 1 m] at hQ'⟩

/-- the rule for an invariant that depends on the position in the run through the index of the loop
only -/
theorem runOuter_inv {P : Nat → OptSt α → List (Ev α) → Prop}
    (hstep : ∀ {loop st g st' ev log}, P loop st log →
      Step score c loop st (next st.hs.size g).1 st' ev → P loop st' (log ++ [ev]))
    (hreset : ∀ {loop st log}, P loop st log → P loop { st with loopRej := 0 } log)
    (hcool : ∀ {loop st log} stop, P loop st log → P (loop + 1) (cool c st stop) log)
    {k loop conv : Nat} {st : OptSt α} {g : G} {evs : List (Ev α)} {st' : OptSt α}
    {evs' : List (Ev α)} {b : Bool}
    (h : runOuter score c next k loop conv st g evs = .ok (st', evs', b))
    (h0 : P loop st evs.reverse) : ∃ m, P (loop + m) st' evs'.reverse := by
  obtain ⟨m, -, -, -, hP⟩ := runOuter_ind (Q := fun loop _ _ => P loop)
    (fun hQ hin => hcool _ (runInner_ind (P := fun _ => P _) hstep hin (hreset hQ))) h h0
  exact ⟨m, hP⟩

/-- every event a run adds to the log comes from a step out of a state that satisfies `I`, an
invariant of the state in the sense of `runOuter_inv` -/
theorem runOuter_events {I : Nat → OptSt α → Prop}
    (hstep : ∀ {loop st g st' ev}, I loop st →
      Step score c loop st (next st.hs.size g).1 st' ev → I loop st')
    (hreset : ∀ {loop st}, I loop st → I loop { st with loopRej := 0 })
    (hcool : ∀ {loop st} stop, I loop st → I (loop + 1) (cool c st stop))
    {k loop conv : Nat} {st : OptSt α} {g : G} {evs : List (Ev α)} {st' : OptSt α}
    {evs' : List (Ev α)} {b : Bool}
    (h : runOuter score c next k loop conv st g evs = .ok (st', evs', b)) (h0 : I loop st) :
    (∃ m, I (loop + m) st') ∧ ∀ ev ∈ evs'.reverse, ev ∈ evs.reverse ∨
      ∃ loop st g st1, I loop st ∧ Step score c loop st (next st.hs.size g).1 st1 ev := by
  have key := runOuter_inv
    (P := fun loop st log => I loop st ∧ ∀ ev ∈ log, ev ∈ evs.reverse ∨
      ∃ loop st g st1, I loop st ∧ Step score c loop st (next st.hs.size g).1 st1 ev)
    ?step (fun hP => ⟨hreset hP.1, hP.2⟩) (fun stop hP => ⟨hcool stop hP.1, hP.2⟩) h
    ⟨h0, fun ev hev => .inl hev⟩
  case step =>
    intro loop st g st' ev log ⟨hI, hlog⟩ s
    refine ⟨hstep hI s, List.forall_mem_append.2 ⟨hlog, ?_⟩⟩
    rw [List.forall_mem_singleton]
    exact .inr ⟨loop, st, g, st', hI, s⟩
  obtain ⟨m, hI, hev⟩ := key
  exact ⟨⟨m, hI⟩, hev⟩

def initSt (c : Cfg α) (heap : Array α) (hs : Array (Handle α)) (s0 : α) : OptSt α :=
  { heap := heap, hs := hs, cur := s0, kt := c.ktStart, ratio := ((1 : Nat) : α), calls := 1,
    loopRej := 0 }

theorem optimise_eq_ok_iff {g : G} {heap : Array α} {hs : Array (Handle α)} {r : Run α} :
    optimise score c next g heap hs = .ok r ↔
      ∃ s0 st' evs b, score 0 heap = some s0 ∧ hs.size ≠ 0 ∧ c.inner ≠ 0 ∧
        runOuter score c next (c.steps / c.inner) 0 0 (initSt c heap hs s0) g [] =
          .ok (st', evs, b) ∧
        (b = false → (score st'.calls st'.heap).isSome = true) ∧
        r = ⟨st'.heap, evs.reverse, st'.calls + (if b then 0 else 1), b, st'.cur⟩ := by
  simp only [optimise, initSt]
  constructor
  · intro h
    split at h
    · cases h
    · next s0 hs0 =>
      split at h
      · cases h
      · next hsz =>
        split at h
        · cases h
        · next hin =>
          split at h
          · cases h
          · next st' evs hrun =>
            cases h
            exact ⟨s0, st', evs, true, hs0, hsz, hin, hrun, nofun, rfl⟩
          · next st' evs hrun =>
            split at h
            · cases h
            · next hfin =>
              cases h
              exact ⟨s0, st', evs, false, hs0, hsz, hin, hrun,
                fun _ => Option.isSome_iff_exists.2 ⟨_, hfin⟩, rfl⟩
  · rintro ⟨s0, st', evs, b, hs0, hsz, hin, hrun, hfin, rfl⟩
    simp only [hs0, hsz, hin, if_false, hrun]
    cases b with
    | true => rfl
    | false =>
      obtain ⟨sf, hsf⟩ := Option.isSome_iff_exists.1 (hfin rfl)
      simp only [hsf]
      rfl

theorem runOuter_score_cur (hpure : ∀ k v, score k v = score 0 v)
    {k loop conv : Nat} {st : OptSt α} {g : G} {evs : List (Ev α)} {st' : OptSt α}
    {evs' : List (Ev α)} {b : Bool}
    (h : runOuter score c next k loop conv st g evs = .ok (st', evs', b))
    (h0 : score 0 st.heap = some st.cur) : score 0 st'.heap = some st'.cur := by
  refine (runOuter_inv (P := fun _ st _ => score 0 st.heap = some st.cur) ?_ id (fun _ => id)
    h h0).elim fun _ hP => hP
  intro loop st g st' ev log hP s
  rcases s.verdict with ⟨-, hacc, hheap, -⟩ | ⟨-, -, hheap, hcur, -⟩
  · rw [hheap, ← hpure st.calls, ← s.new]
    exact acceptScore_eq_some hacc
  · rw [hheap, hcur]
    exact hP

theorem optimise_score_cur (hpure : ∀ k v, score k v = score 0 v) {g : G} {heap : Array α}
    {hs : Array (Handle α)} {r : Run α} (h : optimise score c next g heap hs = .ok r) :
    score 0 r.heap = some r.cur := by
  obtain ⟨s0, st', evs, b, hs0, -, -, hrun, -, rfl⟩ := optimise_eq_ok_iff.1 h
  exact runOuter_score_cur hpure hrun hs0

/-- the layout of a run: `m` whole loops of `inner` events (all `steps / inner` of them unless it
stopped early, which takes a threshold); the score calls besides one per event are the initial one
and, unless the run stopped early, the final one; the event at index `i` carries the loop `i / inner`.
The two invariants below say the same after `loop` loops and after `k` more steps. -/
theorem optimise_layout {g : G} {heap : Array α} {hs : Array (Handle α)} {r : Run α}
    (h : optimise score c next g heap hs = .ok r) :
    0 < c.inner ∧ ∃ m, m ≤ c.steps / c.inner ∧ (r.converged = false → m = c.steps / c.inner) ∧
      (c.convergence = none → r.converged = false) ∧
      r.events.length = m * c.inner ∧
      r.calls = r.events.length + (if r.converged then 1 else 2) ∧
      r.events.map (·.loop) = (List.range r.events.length).map (· / c.inner) := by
  obtain ⟨s0, st', evs, b, -, -, hin, hrun, -, rfl⟩ := optimise_eq_ok_iff.1 h
  have key := runOuter_ind
    (Q := fun loop _ stop st log => (c.convergence = none → stop = false) ∧
      log.length = loop * c.inner ∧ st.calls = log.length + 1 ∧
      log.map (·.loop) = (List.range log.length).map (· / c.inner))
    ?loop hrun ⟨fun _ => rfl, by simp, rfl, rfl⟩
  case loop =>
    intro loop conv st g evs st1 g1 evs1 ⟨_, hlen, hcalls, hloops⟩ hin
    have hP := runInner_ind
      (P := fun k st log => loop * c.inner ≤ log.length ∧ log.length + k = (loop + 1) * c.inner ∧
        st.calls = log.length + 1 ∧ log.map (·.loop) = (List.range log.length).map (· / c.inner))
      ?step hin ⟨Nat.le_of_eq hlen.symm, by rw [hlen, Nat.succ_mul], hcalls, hloops⟩
    case step =>
      intro k st g log st' ev ⟨hlo, hlen, hcalls, hloops⟩ s
      have hdiv : log.length / c.inner = loop := Nat.div_eq_of_lt_le hlo (by omega)
      refine ⟨?_, ?_, by simp [s.st_calls, hcalls], ?_⟩
      · simp
        omega
      · simp
        omega
      · simp [List.range_succ, hloops, s.loop, hdiv]
    exact ⟨fun hc => by simp [convStep, hc], hP.2⟩
  obtain ⟨m, -, hm, hb, hnone, hlen, hcalls, hloops⟩ := key
  refine ⟨Nat.pos_of_ne_zero hin, m, hm, hb, hnone, by simpa using hlen, ?_, hloops⟩
  simp only [hcalls]
  cases b <;> rfl

end run

end PV
