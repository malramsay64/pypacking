/-
  Lemmas/C1908Run.lean — the run invariant shared by C08 (parameters stay in range) and C19 (no move
  larger than the maximum step): the heap against the initial heap and handles, and the step ratio
  in `(0, 1]`.  Carrier ℝ.
-/
import Lemmas.RealCarrier
import Lemmas.Optimiser
import Mathlib.Tactic.Positivity

namespace PV.C1908
open PV

theorem clamp_mem (lo hi x : ℝ) (h : lo ≤ hi) : lo ≤ clamp lo hi x ∧ clamp lo hi x ≤ hi := by
  unfold clamp
  split_ifs with h1 h2
  · exact ⟨le_refl _, h⟩
  · exact ⟨h, le_refl _⟩
  · exact ⟨not_lt.mp h1, not_lt.mp h2⟩

/-- `C08.InRange` and `C19.HandlesOk` unfold to this -/
def InRange (heap : Array ℝ) (hs : Array (Handle ℝ)) : Prop :=
  (∀ i (hi : i < hs.size), (hs[i]).addr < heap.size ∧ (hs[i]).min ≤ (hs[i]).max ∧
      (hs[i]).min ≤ hget heap (hs[i]).addr ∧ hget heap (hs[i]).addr ≤ (hs[i]).max) ∧
  (∀ i j (hi : i < hs.size) (hj : j < hs.size), i ≠ j → (hs[i]).addr ≠ (hs[j]).addr)

structure HeapRel (heap0 : Array ℝ) (hs0 : Array (Handle ℝ)) (heap : Array ℝ) : Prop where
  size : heap.size = heap0.size
  range : ∀ i (hi : i < hs0.size),
    (hs0[i]).min ≤ hget heap (hs0[i]).addr ∧ hget heap (hs0[i]).addr ≤ (hs0[i]).max
  frame : ∀ a, (∀ i (hi : i < hs0.size), (hs0[i]).addr ≠ a) → heap[a]? = heap0[a]?

theorem HeapRel.set {heap0 : Array ℝ} {hs0 : Array (Handle ℝ)} {heap : Array ℝ}
    (h0 : InRange heap0 hs0) (hr : HeapRel heap0 hs0 heap) (k : Nat) (hk : k < hs0.size) (v : ℝ)
    (hv : (hs0[k]).min ≤ v ∧ v ≤ (hs0[k]).max) :
    HeapRel heap0 hs0 (heap.setIfInBounds (hs0[k]).addr v) := by
  obtain ⟨hsz, hin, hun⟩ := hr
  refine ⟨by rw [Array.size_setIfInBounds, hsz], ?_, ?_⟩
  · intro i hi
    by_cases hik : i = k
    · subst hik
      rw [hget_setIfInBounds_self _ _ (hsz ▸ (h0.1 i hi).1)]
      exact hv
    · rw [hget_setIfInBounds_ne _ _ (h0.2 i k hi hk hik)]
      exact hin i hi
  · intro a ha
    rw [Array.getElem?_setIfInBounds_ne (ha k hk)]
    exact hun a ha

theorem cool_ratio_mem (c : Cfg ℝ) (hin : 1 ≤ c.inner) (st : OptSt ℝ) (stop : Bool)
    (h : 0 < st.ratio ∧ st.ratio ≤ 1) :
    0 < (cool c st stop).ratio ∧ (cool c st stop).ratio ≤ 1 := by
  cases stop
  · show 0 < adaptedRatio c st ∧ adaptedRatio c st ≤ 1
    unfold adaptedRatio
    split_ifs
    · simp only [fmin_real, Nat.cast_one]
      exact ⟨lt_min (mul_pos h.1 (div_pos (Nat.cast_pos.2 hin) (by positivity))) one_pos,
        min_le_right _ _⟩
    · exact h
  · exact h

structure Inv (heap0 : Array ℝ) (hs0 : Array (Handle ℝ)) (st : OptSt ℝ) : Prop where
  heap : HeapRel heap0 hs0 st.heap
  cells : SameCells hs0 st.hs
  ratio : 0 < st.ratio ∧ st.ratio ≤ 1

variable {score : Nat → Array ℝ → Option ℝ} {c : Cfg ℝ} {heap0 : Array ℝ} {hs0 : Array (Handle ℝ)}
  {loop : Nat} {st st' : OptSt ℝ} {d : Nat × ℝ × ℝ} {ev : Ev ℝ}

theorem Inv.proposal (h0 : InRange heap0 hs0) (hI : Inv heap0 hs0 st)
    (s : Step score c loop st d st' ev) :
    ∃ hi : ev.idx < hs0.size,
      ev.proposal = ev.before.setIfInBounds hs0[ev.idx].addr
        (clamp hs0[ev.idx].min hs0[ev.idx].max (hs0[ev.idx].sample ev.before ev.stepSize d.2.1)) ∧
      HeapRel heap0 hs0 ev.proposal := by
  have hi : d.1 < hs0.size := hI.cells.1 ▸ s.idx_lt
  obtain ⟨haddr, hmin, hmax⟩ := hI.cells.2 d.1 hi s.idx_lt
  have hprop : ev.proposal = st.heap.setIfInBounds hs0[d.1].addr
      (clamp hs0[d.1].min hs0[d.1].max (hs0[d.1].sample st.heap ev.stepSize d.2.1)) := by
    rw [s.proposal]
    simp only [Handle.setSampled, Handle.setValue, Handle.sample, haddr, hmin, hmax]
  simp only [s.idx, s.before]
  refine ⟨hi, hprop, ?_⟩
  rw [hprop]
  exact hI.heap.set h0 d.1 hi _ (clamp_mem _ _ _ (h0.1 d.1 hi).2.1)

theorem Inv.step (h0 : InRange heap0 hs0) (hI : Inv heap0 hs0 st)
    (s : Step score c loop st d st' ev) : Inv heap0 hs0 st' := by
  refine ⟨?_, s.sameCells hI.cells, s.st_ratio ▸ hI.ratio⟩
  rcases s.verdict with ⟨-, -, hheap, -⟩ | ⟨-, -, hheap, -⟩
  · rw [hheap]
    exact (hI.proposal h0 s).2.2
  · rw [hheap]
    exact hI.heap

theorem Inv.cool (hin : 1 ≤ c.inner) (stop : Bool) (hI : Inv heap0 hs0 st) :
    Inv heap0 hs0 (cool c st stop) :=
  ⟨hI.heap, hI.cells, cool_ratio_mem c hin st stop hI.ratio⟩

theorem optimise_inv {G : Type} {next : Nat → G → (Nat × ℝ × ℝ) × G} {g : G} {heap : Array ℝ}
    {hs : Array (Handle ℝ)} (h0 : InRange heap hs) {r : Run ℝ}
    (h : optimise score c next g heap hs = .ok r) :
    HeapRel heap hs r.heap ∧ ∀ ev ∈ r.events, ∃ loop st g st',
      Inv heap hs st ∧ Step score c loop st (next st.hs.size g).1 st' ev := by
  obtain ⟨s0, st', evs, b, -, -, hinner, hrun, -, rfl⟩ := optimise_eq_ok_iff.1 h
  obtain ⟨⟨-, hI⟩, hev⟩ := runOuter_events (I := fun _ => Inv heap hs) (fun hI s => hI.step h0 s)
    (fun hI => ⟨hI.heap, hI.cells, hI.ratio⟩)
    (Inv.cool (Nat.one_le_iff_ne_zero.2 hinner)) hrun
    ⟨⟨rfl, fun i hi => (h0.1 i hi).2.2, fun _ _ => rfl⟩, .refl hs, by simp [initSt]⟩
  exact ⟨hI.heap, fun ev hmem => (hev ev hmem).resolve_left List.not_mem_nil⟩

end PV.C1908
