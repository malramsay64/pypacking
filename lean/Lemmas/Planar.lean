/-
  Lemmas/Planar.lean — the Euclidean norm of the plane on coordinate pairs (carrier ℝ), which all
  distance arguments of C01 / C03 / C08 / C12 go through.  `nrm x y` is definitionally the modulus
  of the complex number `x + iy`, so the triangle inequality is Mathlib's.  The model's own
  `normSq` and `dist` (nalgebra) are expressed through it at the end.  The namespace is `PV.C01Geom`,
  that of Lemmas/C01Geom.lean, whose lemmas about `nrm` these are.
-/
import Lemmas.RealCarrier
import Model.Shapes
import Mathlib.Analysis.Complex.Norm

namespace PV.C01Geom

noncomputable def nrm (x y : ℝ) : ℝ := Real.sqrt (x * x + y * y)

theorem nrm_zero : nrm 0 0 = 0 := by
  simp [nrm]

theorem nrm_eq_sqrt (x y : ℝ) : nrm x y = Real.sqrt (x ^ 2 + y ^ 2) := by
  rw [nrm, sq, sq]

theorem nrm_sq (x y : ℝ) : nrm x y ^ 2 = x ^ 2 + y ^ 2 := by
  rw [nrm_eq_sqrt, Real.sq_sqrt (by positivity)]

theorem nrm_add_le (x y u v : ℝ) : nrm (x + u) (y + v) ≤ nrm x y + nrm u v :=
  norm_add_le (⟨x, y⟩ : ℂ) ⟨u, v⟩

theorem nrm_neg (x y : ℝ) : nrm (-x) (-y) = nrm x y := norm_neg (⟨x, y⟩ : ℂ)

theorem nrm_sub_comm (x y u v : ℝ) : nrm (x - u) (y - v) = nrm (u - x) (v - y) :=
  norm_sub_rev (⟨x, y⟩ : ℂ) ⟨u, v⟩

/-- the form of the triangle inequality the distance arguments use: `|p − r| ≤ |p − q| + |q − r|` -/
theorem nrm_sub_le (px py qx qy rx ry : ℝ) :
    nrm (px - rx) (py - ry) ≤ nrm (px - qx) (py - qy) + nrm (qx - rx) (qy - ry) := by
  have h := nrm_add_le (px - qx) (py - qy) (qx - rx) (qy - ry)
  rwa [sub_add_sub_cancel, sub_add_sub_cancel] at h

theorem nrm_smul (s x y : ℝ) : nrm (s * x) (s * y) = |s| * nrm x y := by
  rw [nrm_eq_sqrt, nrm_eq_sqrt, show (s * x) ^ 2 + (s * y) ^ 2 = s ^ 2 * (x ^ 2 + y ^ 2) by ring,
    Real.sqrt_mul (sq_nonneg s), Real.sqrt_sq_eq_abs]

theorem nrm_orthonormal {a b c d : ℝ} (h1 : a * a + c * c = 1) (h2 : b * b + d * d = 1)
    (h3 : a * b + c * d = 0) (x y : ℝ) : nrm (a * x + b * y) (c * x + d * y) = nrm x y := by
  unfold nrm
  congr 1
  linear_combination x * x * h1 + y * y * h2 + 2 * x * y * h3

theorem nrm_le_iff {a x y : ℝ} (ha : 0 ≤ a) : nrm x y ≤ a ↔ x ^ 2 + y ^ 2 ≤ a ^ 2 := by
  rw [nrm_eq_sqrt]
  exact Real.sqrt_le_left ha

theorem nrm_lt_iff {a x y : ℝ} (ha : 0 < a) : nrm x y < a ↔ x ^ 2 + y ^ 2 < a ^ 2 := by
  rw [nrm_eq_sqrt]
  exact Real.sqrt_lt' ha

theorem le_nrm_iff {a x y : ℝ} (ha : 0 ≤ a) : a ≤ nrm x y ↔ a ^ 2 ≤ x ^ 2 + y ^ 2 := by
  rw [nrm_eq_sqrt]
  exact Real.le_sqrt ha (by positivity)

/-- no sign condition: a negative `a` is below every norm -/
theorem lt_nrm_of_sq_lt {a x y : ℝ} (h : a ^ 2 < x ^ 2 + y ^ 2) : a < nrm x y := by
  rw [nrm_eq_sqrt]
  exact Real.lt_sqrt_of_sq_lt h

theorem normSq_real (x y : ℝ) : normSq x y = x ^ 2 + y ^ 2 := by
  rw [normSq, sq, sq]

theorem dist_eq_nrm (px py qx qy : ℝ) : dist px py qx qy = nrm (qx - px) (qy - py) := rfl

theorem dist_from_origin (x y : ℝ) : dist (sc0 : ℝ) sc0 x y = nrm x y := by
  rw [dist_eq_nrm, sc0, Nat.cast_zero, sub_zero, sub_zero]

theorem dist_to_origin (x y : ℝ) : dist x y (sc0 : ℝ) sc0 = nrm x y := by
  rw [dist_eq_nrm, sc0, Nat.cast_zero, zero_sub, zero_sub, nrm_neg]

end PV.C01Geom
