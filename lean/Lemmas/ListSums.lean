/-
  Lemmas/ListSums.lean — real-valued sums over lists in one form, `List.sum` of `List.map`s, whatever computes
  them: the model's `fsum`, a left fold, `flatMap`, or (in the translated source) `iter().map(..).sum()`,
  `iproduct!(..).map(..).sum()`, `fold(0., |a, x| a + ..)`, a `for` loop with `acc += ..`, nested or not.  The
  lemmas are in the simp set `tie`, so that a tie theorem does not depend on which of these forms the crate is
  written in.
-/
import Lemmas.TieAttr
import Lemmas.RealCarrier
import Model.Shapes
import Mathlib.Algebra.BigOperators.Group.List.Basic

namespace PV

/-- an accumulation loop `for x in l { acc += f x }`; applied inside out it also covers a loop whose body is
itself such a loop (`acc` threaded through the inner loop) -/
@[tie]
theorem foldl_acc_add {β : Type} (f : β → ℝ) (l : List β) (init : ℝ) :
    l.foldl (fun acc x => acc + f x) init = init + (l.map f).sum := by
  induction l generalizing init with
  | nil => simp
  | cons x xs ih => simp [List.foldl_cons, ih, add_assoc]

@[tie]
theorem foldl_add_eq_sum (xs : List ℝ) (acc : ℝ) : xs.foldl (· + ·) acc = acc + xs.sum := by
  simpa using foldl_acc_add id xs acc

@[tie]
theorem fsum_eq_sum (xs : List ℝ) : fsum xs = xs.sum := by
  simp [fsum, foldl_add_eq_sum, sc0]

theorem foldl_acc_add' {β : Type} (f : β → ℝ) (l : List β) (init : ℝ) :
    l.foldl (fun acc x => acc + f x) init = init + (l.map f).sum := foldl_acc_add f l init

theorem foldl_acc_nested {β γ : Type} (g : β → γ → ℝ) (l : List β) (m : β → List γ) (init : ℝ) :
    l.foldl (fun acc x => acc + ((m x).map (g x)).sum) init
      = init + (l.map fun x => ((m x).map (g x)).sum).sum :=
  foldl_acc_add (fun x => ((m x).map (g x)).sum) l init

@[tie]
theorem sum_flatMap_map {β : Type} (xs : List β) (f : β → List ℝ) :
    (xs.flatMap f).sum = (xs.map fun x => (f x).sum).sum := by
  rw [List.flatMap_def, List.sum_flatten, List.map_map]
  rfl

attribute [tie] zero_add add_zero List.sum_nil

end PV
