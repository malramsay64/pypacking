/-
  Lemmas/RealCarrier.lean — the carrier `ℝ` for the scalar-polymorphic model.

  The model's definitions take the core operator classes as separate instance arguments, so at
  `α := ℝ` they elaborate to the standard real operations; only the three small classes of
  `Model/Scalar.lean` need instances, given here together with the `simp` lemmas that unfold them.
-/
import Model.Scalar
import Mathlib.Analysis.SpecialFunctions.Trigonometric.Basic
import Mathlib.Analysis.SpecialFunctions.Pow.Real
import Mathlib.Analysis.SpecialFunctions.Trigonometric.Inverse
import Mathlib.Algebra.Order.Floor.Ring
import Mathlib.Tactic.Ring

namespace PV

noncomputable instance : Transc ℝ where
  sin := Real.sin
  cos := Real.cos
  exp := Real.exp
  sqrt := Real.sqrt
  acos := Real.arccos
  powf := fun x y => x ^ y
  pi := Real.pi

/-- truncation toward zero (what C `fmod` uses) -/
noncomputable def rtrunc (r : ℝ) : ℤ := if 0 ≤ r then ⌊r⌋ else ⌈r⌉

theorem rtrunc_of_nonneg {y : ℝ} (h : 0 ≤ y) : rtrunc y = ⌊y⌋ :=
  if_pos h

theorem rtrunc_intCast (z : ℤ) : rtrunc (z : ℝ) = z := by
  rw [rtrunc, Int.floor_intCast, Int.ceil_intCast, ite_self]

noncomputable instance : FModLike ℝ where
  fmod := fun x p => x - p * (rtrunc (x / p) : ℝ)
  floor := fun x => (⌊x⌋ : ℝ)
  ceil := fun x => (⌈x⌉ : ℝ)

noncomputable instance : FMin ℝ where
  fmin := min
  fmax := max
  fabs := abs
  lowest := -(2 ^ 1024 : ℝ)
  toI64 := fun x => rtrunc x

@[simp] theorem sin_real (x : ℝ) : Transc.sin x = Real.sin x := rfl
@[simp] theorem cos_real (x : ℝ) : Transc.cos x = Real.cos x := rfl
@[simp] theorem exp_real (x : ℝ) : Transc.exp x = Real.exp x := rfl
@[simp] theorem sqrt_real (x : ℝ) : Transc.sqrt x = Real.sqrt x := rfl
@[simp] theorem acos_real (x : ℝ) : Transc.acos x = Real.arccos x := rfl
@[simp] theorem powf_real (x y : ℝ) : Transc.powf x y = x ^ y := rfl
@[simp] theorem pi_real : (Transc.pi : ℝ) = Real.pi := rfl
@[simp] theorem fmod_real (x p : ℝ) : FModLike.fmod x p = x - p * (rtrunc (x / p) : ℝ) := rfl
@[simp] theorem fmin_real (x y : ℝ) : FMin.fmin x y = min x y := rfl
@[simp] theorem fmax_real (x y : ℝ) : FMin.fmax x y = max x y := rfl
@[simp] theorem fabs_real (x : ℝ) : FMin.fabs x = |x| := rfl
@[simp] theorem lowest_real : (FMin.lowest : ℝ) = -(2 ^ 1024 : ℝ) := rfl
@[simp] theorem toI64_real (x : ℝ) : FMin.toI64 x = rtrunc x := rfl

@[simp] theorem q_real (n d : Nat) : (q n d : ℝ) = (n : ℝ) / (d : ℝ) := rfl

theorem powi_go_eq (fuel : ℕ) :
    ∀ (a : ℝ) (b : ℕ) (r : ℝ), b < 2 ^ fuel → powi.go fuel a b r = r * a ^ b := by
  induction fuel with
  | zero =>
    intro a b r hb
    rw [Nat.lt_one_iff.mp hb, pow_zero, mul_one]
    rfl
  | succ fuel ih =>
    intro a b r hb
    have hr : (if b % 2 == 1 then r * a else r) = r * a ^ (b % 2) := by
      rcases Nat.mod_two_eq_zero_or_one b with h | h <;> simp [h]
    have hb2 : b / 2 < 2 ^ fuel := by omega
    rw [powi.go, hr]
    by_cases h0 : b / 2 = 0
    · have : b % 2 = b := by omega
      simp [h0, this]
    · simp only [beq_iff_eq, h0, if_false, ih _ _ _ hb2]
      rw [← pow_two, ← pow_mul, mul_assoc, ← pow_add, Nat.mod_add_div]

/-- every exponent of the crate is far below the fuel bound `2^64` -/
theorem powi_eq_pow (x : ℝ) (n : ℕ) (hn : n < 2 ^ 64) : powi x n = x ^ n := by
  rw [powi, powi_go_eq 64 x n _ hn, Nat.cast_one, one_mul]

theorem powi_one (x : ℝ) : powi x 1 = x := by
  rw [powi_eq_pow x 1 (by norm_num), pow_one]

theorem powi_two (x : ℝ) : powi x 2 = x * x := by
  rw [powi_eq_pow x 2 (by norm_num), sq]

theorem powi_four (x : ℝ) : powi x 4 = x * x * (x * x) := by
  rw [powi_eq_pow x 4 (by norm_num)]
  ring

end PV
