/-
  Lemmas/WrapLemmas.lean — the scalar wrap at carrier ℝ with period 1, offset -1/2, is
  `Int.fract (x + 1/2) - 1/2`.
-/
import Lemmas.RealCarrier
import Model.Mat3
import Mathlib.Tactic.Linarith

namespace PV

theorem rtrunc_sub_gt (y : ℝ) : -1 < y - (rtrunc y : ℝ) := by
  unfold rtrunc
  split_ifs with h
  · linarith [Int.floor_le y]
  · linarith [Int.ceil_lt_add_one y]

/-- C `fmod` twice with the `+ period` in between is the fractional part: the first `fmod` leaves
`z = y - rtrunc y + 1 > 0`, where truncation is the floor, and `z` differs from `y` by an integer -/
theorem fmod_fmod_one (y : ℝ) :
    FModLike.fmod (FModLike.fmod y (1:ℝ) + 1) (1:ℝ) = Int.fract y := by
  have hz : (0:ℝ) ≤ y - (rtrunc y : ℝ) + 1 := by linarith [rtrunc_sub_gt y]
  rw [fmod_real, fmod_real, div_one, div_one, one_mul, one_mul, rtrunc_of_nonneg hz,
    Int.self_sub_floor, Int.fract_add_one, Int.fract_sub_intCast]

theorem wrap_eq_fract (x : ℝ) :
    wrap (1:ℝ) (-(1/2) : ℝ) x = Int.fract (x + 1/2) - 1/2 := by
  rw [wrap, sub_neg_eq_add, fmod_fmod_one, sub_eq_add_neg]

end PV
