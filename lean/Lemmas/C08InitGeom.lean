/-
  Lemmas/C08InitGeom.lean — helper lemmas for Proofs/C08Init.lean (carrier ℝ):
  the test-level centre-distance prefilter (placed copies whose positions are `4R` apart TEST
  negative, tolerance of the segment test included), the square cell, the wrap on rational
  arguments.
-/
import Proofs.C01
import Mathlib.Tactic.Ring
import Mathlib.Tactic.Linarith
import Mathlib.Tactic.NormNum
import Mathlib.Data.Rat.Floor

namespace PV.C08InitGeom
open PV.Proofs PV.C01Geom

theorem len_le (l : Line2 ℝ) (R : ℝ) (hs : nrm l.sx l.sy ≤ R) (he : nrm l.ex l.ey ≤ R) :
    C12.Line2.len l ≤ 2 * R := by
  rw [C12.len_eq_nrm]
  have h := nrm_sub_le l.ex l.ey 0 0 l.sx l.sy
  rw [sub_zero, sub_zero, zero_sub, zero_sub, nrm_neg] at h
  linarith

/-- the `tol`-extension of two edges of length at most `2R` reaches at most `R` (`1/4` is a crude
bound for `tol = 10⁻¹²`) -/
theorem tol_ext_le {La Lb R : ℝ} (ha : La ≤ 2 * R) (hb : Lb ≤ 2 * R) (h0 : 0 ≤ La + Lb) :
    C12.tol * (La + Lb) ≤ R := by
  have ht : C12.tol ≤ 1 / 4 := by
    unfold C12.tol
    norm_num
  calc C12.tol * (La + Lb) ≤ 1 / 4 * (La + Lb) := mul_le_mul_of_nonneg_right ht h0
    _ ≤ R := by linarith

/-- where `4R` comes from: the `tol`-extension of the edges adds at most `R` to the `2R` of
`C01Geom.line_points_far` -/
theorem line_test_far (items : List (Line2 ℝ))
    (hend : ∀ l ∈ items, dist (sc0 : ℝ) sc0 l.ex l.ey ≤ (Shape.line items).enclosingRadius)
    (hR : 0 < (Shape.line items).enclosingRadius) (t u : Mat3 ℝ)
    (ht : C12.Affine t ∧ C12.Orthogonal t) (hu : C12.Affine u ∧ C12.Orthogonal u)
    (hfar : (4 * (Shape.line items).enclosingRadius) ^ 2 ≤
      (t.m02 - u.m02) ^ 2 + (t.m12 - u.m12) ^ 2) :
    ((Shape.line items).transform t).intersects ((Shape.line items).transform u) = false := by
  rw [Bool.eq_false_iff]
  intro h
  simp only [Shape.transform, Shape.intersects, List.any_eq_true, List.mem_map] at h
  obtain ⟨_, ⟨a, ha, rfl⟩, _, ⟨b, hb, rfl⟩, hab⟩ := h
  obtain ⟨s, r, hs0, hs1, hr0, hr1, hd⟩ := C12.seg_sound_distance _ _ hab
  rw [C12.len_transform a t ht.1 ht.2, C12.len_transform b u hu.1 hu.2] at hd
  have hfar' := line_points_far items hend t u ht hu a b ha hb s r hs0 hs1 hr0 hr1
  simp only [dist_from_origin] at hend
  have hext := tol_ext_le (len_le a _ (start_le_enclosingRadius ha) (hend a ha))
    (len_le b _ (start_le_enclosingRadius hb) (hend b hb))
    (add_nonneg (C12.len_nonneg a) (C12.len_nonneg b))
  rw [← le_nrm_iff (by linarith)] at hfar
  linarith

theorem test_far (sh : Shape ℝ) (hs : C01.ShapeOk sh) (hR : 0 < sh.enclosingRadius) (t u : Mat3 ℝ)
    (ht : C12.Affine t ∧ C12.Orthogonal t) (hu : C12.Affine u ∧ C12.Orthogonal u)
    (hfar : (4 * sh.enclosingRadius) ^ 2 ≤ C01.dist2 t u) :
    (sh.transform t).intersects (sh.transform u) = false := by
  rw [C01.dist2_eq ht.1 hu.1] at hfar
  cases sh with
  | line items => exact line_test_far items hs hR t u ht hu hfar
  | mol items =>
    -- `(2R)² < (4R)²`
    refine mol_prefilter items hs t u ht hu (lt_of_lt_of_le ?_ hfar)
    exact pow_lt_pow_left₀ (mul_lt_mul_of_pos_right (by norm_num) hR) (mul_nonneg zero_le_two hR.le)
      two_ne_zero
  | lj items => exact hs.elim

theorem square_dist (c : Cell ℝ) (hr : c.ratio = 1) (ha : c.angle = Real.pi / 2) (p q : Mat3 ℝ)
    (hp : C12.Affine p) (hq : C12.Affine q) (n m : Int) :
    C01.dist2 (C01.img c p 0 0) (C01.img c q n m) =
      c.length ^ 2 * ((p.m02 - q.m02 - (n : ℝ)) ^ 2 + (p.m12 - q.m12 - (m : ℝ)) ^ 2) := by
  rw [C01.dist2_img c hp hq]
  simp only [Cell.toCartesian, Cell.a, Cell.b, hr, ha, sin_real, cos_real, Real.sin_pi_div_two,
    Real.cos_pi_div_two]
  ring

def wrapQ (x : ℚ) : ℚ := x - ((x + 1/2).floor : ℚ)

theorem w_cast (x : ℚ) : C15.w (x : ℝ) = ((wrapQ x : ℚ) : ℝ) := by
  have h : ⌊((x + 1 / 2 : ℚ) : ℝ)⌋ = (x + 1 / 2).floor := Rat.floor_cast _
  push_cast at h
  rw [C15.w, wrap_eq_fract, Int.fract, wrapQ, h]
  push_cast
  ring

end PV.C08InitGeom
