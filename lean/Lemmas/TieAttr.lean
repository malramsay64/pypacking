/-
  Lemmas/TieAttr.lean — the simp set `tie`, with which the translator-tie theorems (Proofs/Tie*.lean) bring
  both sides to one form.  What is in it, and why, is said where the lemmas are tagged: Lemmas/TieTactics.lean,
  Lemmas/ListSums.lean, and every tie theorem once it is proved.
-/
import Lean.Meta.Tactic.Simp.RegisterCommand

/-- normal forms for the translator ties: the model's scalar helpers in plain real arithmetic, Bool-valued
tests, sums, and the ties of the translated callees -/
register_simp_attr tie
