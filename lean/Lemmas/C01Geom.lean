/-
  Lemmas/C01Geom.lean — geometry and list lemmas for C01 (carrier ℝ): `foldMax` and the enclosing
  radius, `orderedPairs`, shifting placements by a vector, lattice images of a placement, the
  centre-distance prefilter for disc-unions and outlines, images outside the searched box.
-/
import Model.State
import Proofs.C12
import Mathlib.Tactic.Linarith

namespace PV.C01Geom
open PV.Proofs

theorem foldl_max_le_iff (xs : List ℝ) (acc b : ℝ) :
    xs.foldl max acc ≤ b ↔ acc ≤ b ∧ ∀ x ∈ xs, x ≤ b := by
  induction xs generalizing acc with
  | nil => simp
  | cons y ys ih => simp [ih, and_assoc]

/-- `foldMax` is the least upper bound of its start value `f64::MIN` and the elements -/
theorem foldMax_le_iff (xs : List ℝ) (b : ℝ) :
    foldMax xs ≤ b ↔ -(2 ^ 1024 : ℝ) ≤ b ∧ ∀ x ∈ xs, x ≤ b :=
  foldl_max_le_iff xs _ b

theorem foldMax_ge (xs : List ℝ) (x : ℝ) (hx : x ∈ xs) : x ≤ foldMax xs :=
  ((foldMax_le_iff xs _).mp le_rfl).2 x hx

theorem foldMax_le (xs : List ℝ) (b : ℝ) (hb : -(2 ^ 1024 : ℝ) ≤ b) (h : ∀ x ∈ xs, x ≤ b) :
    foldMax xs ≤ b :=
  (foldMax_le_iff xs b).mpr ⟨hb, h⟩

theorem start_le_enclosingRadius {items : List (Line2 ℝ)} {l : Line2 ℝ} (hl : l ∈ items) :
    nrm l.sx l.sy ≤ (Shape.line items).enclosingRadius := by
  rw [← dist_from_origin]
  exact foldMax_ge _ _ (List.mem_map.mpr ⟨l, hl, rfl⟩)

theorem atom_le_enclosingRadius {items : List (Atom2 ℝ)} {a : Atom2 ℝ} (ha : a ∈ items) :
    nrm a.x a.y + a.r ≤ (Shape.mol items).enclosingRadius := by
  rw [← dist_to_origin]
  exact foldMax_ge _ _ (List.mem_map.mpr ⟨a, ha, rfl⟩)

theorem forall_orderedPairs {β : Type} (P : β → β → Prop) (l : List β) :
    (∀ ab ∈ orderedPairs l, P ab.1 ab.2) ↔ l.Pairwise P := by
  induction l with
  | nil => simp [orderedPairs]
  | cons x xs ih =>
    rw [List.pairwise_cons, ← ih]
    simp only [orderedPairs, List.mem_append, List.mem_map]
    constructor
    · intro h
      exact ⟨fun y hy => h (x, y) (Or.inl ⟨y, hy, rfl⟩), fun ab hab => h ab (Or.inr hab)⟩
    · rintro ⟨h1, h2⟩ ab (⟨y, hy, rfl⟩ | hab)
      · exact h1 y hy
      · exact h2 ab hab

def shiftM (t : Mat3 ℝ) (wx wy : ℝ) : Mat3 ℝ := { t with m02 := t.m02 + wx, m12 := t.m12 + wy }

def shiftA (a : Atom2 ℝ) (wx wy : ℝ) : Atom2 ℝ := ⟨a.x + wx, a.y + wy, a.r⟩

def shiftL (l : Line2 ℝ) (wx wy : ℝ) : Line2 ℝ := ⟨l.sx + wx, l.sy + wy, l.ex + wx, l.ey + wy⟩

theorem shiftM_affine (t : Mat3 ℝ) (h : C12.Affine t) (wx wy : ℝ) : C12.Affine (shiftM t wx wy) := h

theorem atom_transform_shift (a : Atom2 ℝ) (t : Mat3 ℝ) (h : C12.Affine t) (wx wy : ℝ) :
    a.transform (shiftM t wx wy) = shiftA (a.transform t) wx wy := by
  rw [C12.atom_transform_eq a _ (shiftM_affine t h wx wy), C12.atom_transform_eq a t h]
  simp only [shiftM, shiftA, add_assoc]

theorem line_transform_shift (l : Line2 ℝ) (t : Mat3 ℝ) (h : C12.Affine t) (wx wy : ℝ) :
    l.transform (shiftM t wx wy) = shiftL (l.transform t) wx wy := by
  rw [C12.line_transform_eq l _ (shiftM_affine t h wx wy), C12.line_transform_eq l t h]
  simp only [shiftM, shiftL, add_assoc]

theorem atom_intersects_shift (a b : Atom2 ℝ) (wx wy : ℝ) :
    (shiftA a wx wy).intersects (shiftA b wx wy) = a.intersects b := by
  simp only [Atom2.intersects, shiftA, add_sub_add_right_eq_sub]

theorem line_intersects_shift (a b : Line2 ℝ) (wx wy : ℝ) :
    (shiftL a wx wy).intersects (shiftL b wx wy) = a.intersects b := by
  simp only [Line2.intersects, Line2.dx, Line2.dy, shiftL, add_sub_add_right_eq_sub]
  rfl

theorem nearParallel_shift (a b : Line2 ℝ) (wx wy : ℝ) :
    C12.NearParallel (shiftL a wx wy) (shiftL b wx wy) ↔ C12.NearParallel a b := by
  unfold C12.NearParallel C12.Line2.len Line2.dx Line2.dy shiftL
  simp only [add_sub_add_right_eq_sub]

theorem at_shiftL (a : Line2 ℝ) (wx wy s : ℝ) :
    C12.Line2.at (shiftL a wx wy) s = ((C12.Line2.at a s).1 + wx, (C12.Line2.at a s).2 + wy) := by
  simp only [C12.Line2.at, shiftL, add_sub_add_right_eq_sub, add_right_comm]

theorem sharePoint_shift (a b : Line2 ℝ) (wx wy : ℝ) :
    C12.SharePoint (shiftL a wx wy) (shiftL b wx wy) ↔ C12.SharePoint a b := by
  simp only [C12.SharePoint, at_shiftL, Prod.mk.injEq, add_left_inj, ← Prod.ext_iff]

theorem shape_shift (sh : Shape ℝ) (t u : Mat3 ℝ) (ht : C12.Affine t) (hu : C12.Affine u)
    (wx wy : ℝ) :
    (sh.transform (shiftM t wx wy)).intersects (sh.transform (shiftM u wx wy)) =
      (sh.transform t).intersects (sh.transform u) := by
  cases sh with
  | line items =>
    simp only [Shape.transform, Shape.intersects, List.any_map, Function.comp_def,
      line_transform_shift _ _ ht, line_transform_shift _ _ hu, line_intersects_shift]
  | mol items =>
    simp only [Shape.transform, Shape.intersects, List.any_map, Function.comp_def,
      atom_transform_shift _ _ ht, atom_transform_shift _ _ hu, atom_intersects_shift]
  | lj items => rfl

theorem translate_affine (c : Cell ℝ) (p : Mat3 ℝ) (hp : C12.Affine p) (n m : Int) :
    C12.Affine (c.toCartesianTranslate p n m) := hp

theorem translate_add (c : Cell ℝ) (p : Mat3 ℝ) (hp : C12.Affine p) (n m k l : Int) :
    c.toCartesianTranslate p (n + k) (m + l) =
      shiftM (c.toCartesianTranslate p n m) (c.toCartesian (k : ℝ) (l : ℝ)).1
        (c.toCartesian (k : ℝ) (l : ℝ)).2 := by
  rw [C14.translate_eq c p hp, C14.translate_eq c p hp, Int.cast_add, Int.cast_add, ← add_assoc,
    ← add_assoc, C14.toCart_add]
  rfl

theorem mol_prefilter (items : List (Atom2 ℝ)) (hr : ∀ a ∈ items, 0 ≤ a.r) (t u : Mat3 ℝ)
    (ht : C12.Affine t ∧ C12.Orthogonal t) (hu : C12.Affine u ∧ C12.Orthogonal u)
    (hfar : (2 * (Shape.mol items).enclosingRadius) ^ 2 <
      (t.m02 - u.m02) ^ 2 + (t.m12 - u.m12) ^ 2) :
    ((Shape.mol items).transform t).intersects ((Shape.mol items).transform u) = false := by
  rw [Bool.eq_false_iff]
  intro h
  obtain ⟨_, ha', _, hb', hab⟩ := (C12.mol_iff _ _).mp h
  obtain ⟨a, ha, rfl⟩ := List.mem_map.mp ha'
  obtain ⟨b, hb, rfl⟩ := List.mem_map.mp hb'
  have hRa := atom_le_enclosingRadius ha
  have hRb := atom_le_enclosingRadius hb
  have hab' : nrm ((t.apply ⟨a.x, a.y⟩).x - (u.apply ⟨b.x, b.y⟩).x)
      ((t.apply ⟨a.x, a.y⟩).y - (u.apply ⟨b.x, b.y⟩).y) < a.r + b.r :=
    C12.atom_near (a.transform t) (b.transform u) (add_nonneg (hr a ha) (hr b hb)) hab
  linarith [C12.apply_far t u ht.1 ht.2 hu.1 hu.2 ⟨a.x, a.y⟩ ⟨b.x, b.y⟩, lt_nrm_of_sq_lt hfar]

/-- two points on edges of two placed copies are at least the distance of the positions less `2R`
apart.  Why `hend`: the enclosing radius of a `LineShape` is the maximum over START points only -/
theorem line_points_far (items : List (Line2 ℝ))
    (hend : ∀ l ∈ items, dist (sc0 : ℝ) sc0 l.ex l.ey ≤ (Shape.line items).enclosingRadius)
    (t u : Mat3 ℝ) (ht : C12.Affine t ∧ C12.Orthogonal t) (hu : C12.Affine u ∧ C12.Orthogonal u)
    (a b : Line2 ℝ) (ha : a ∈ items) (hb : b ∈ items) (s r : ℝ)
    (hs0 : 0 ≤ s) (hs1 : s ≤ 1) (hr0 : 0 ≤ r) (hr1 : r ≤ 1) :
    nrm (t.m02 - u.m02) (t.m12 - u.m12) ≤
      nrm ((C12.Line2.at (a.transform t) s).1 - (C12.Line2.at (b.transform u) r).1)
          ((C12.Line2.at (a.transform t) s).2 - (C12.Line2.at (b.transform u) r).2) +
        2 * (Shape.line items).enclosingRadius := by
  simp only [dist_from_origin] at hend
  have P1 := C12.nrm_at_le a _ (start_le_enclosingRadius ha) (hend a ha) s hs0 hs1
  have P2 := C12.nrm_at_le b _ (start_le_enclosingRadius hb) (hend b hb) r hr0 hr1
  rw [C12.at_transform a t ht.1, C12.at_transform b u hu.1]
  linarith [C12.apply_far t u ht.1 ht.2 hu.1 hu.2 ⟨(C12.Line2.at a s).1, (C12.Line2.at a s).2⟩
    ⟨(C12.Line2.at b r).1, (C12.Line2.at b r).2⟩]

theorem line_prefilter (items : List (Line2 ℝ))
    (hend : ∀ l ∈ items, dist (sc0 : ℝ) sc0 l.ex l.ey ≤ (Shape.line items).enclosingRadius)
    (t u : Mat3 ℝ) (ht : C12.Affine t ∧ C12.Orthogonal t) (hu : C12.Affine u ∧ C12.Orthogonal u)
    (hfar : (2 * (Shape.line items).enclosingRadius) ^ 2 <
      (t.m02 - u.m02) ^ 2 + (t.m12 - u.m12) ^ 2) :
    ¬ ∃ a' ∈ items.map (·.transform t), ∃ b' ∈ items.map (·.transform u), C12.SharePoint a' b' := by
  rintro ⟨_, ha', _, hb', s, r, hs0, hs1, hr0, hr1, heq⟩
  obtain ⟨a, ha, rfl⟩ := List.mem_map.mp ha'
  obtain ⟨b, hb, rfl⟩ := List.mem_map.mp hb'
  have h := line_points_far items hend t u ht hu a b ha hb s r hs0 hs1 hr0 hr1
  rw [heq, sub_self, sub_self, nrm_zero, zero_add] at h
  exact (lt_nrm_of_sq_lt hfar).not_ge h

theorem ceil_real (x : ℝ) : FModLike.ceil x = ((⌈x⌉ : ℤ) : ℝ) := rfl

theorem shellFactor_eval : (Generated.packedShellFactor.eval noEnv : ℝ) = 2 := by
  simp [Generated.packedShellFactor, BExpr.eval]

theorem prefilterFactor_eval : (Generated.packedPrefilterFactor.eval noEnv : ℝ) = 2 := by
  simp [Generated.packedPrefilterFactor, BExpr.eval]

theorem shells_eq (s : Crystal ℝ) :
    s.shells = ⌈2 * s.shape.enclosingRadius / (min s.cell.a s.cell.b * Real.sin s.cell.angle)⌉ := by
  unfold Crystal.shells
  simp only [shellFactor_eval, fmin_real, sin_real, toI64_real, ceil_real, rtrunc_intCast]

/-- the offset of two coordinates of a cell `[-w, w)`, minus a number that is beyond `K` by the width
`2w` of the cell, is beyond `K` -/
theorem abs_gt_of_outside {w K N x y : ℝ} (hx1 : -w ≤ x) (hx2 : x < w) (hy1 : -w ≤ y) (hy2 : y < w)
    (h : K + 2 * w ≤ |N|) : K < |x - y - N| := by
  have h3 : |x - y| < 2 * w := abs_sub_lt_iff.mpr ⟨by linarith, by linarith⟩
  have h2 := abs_sub_abs_le_abs_sub N (x - y)
  rw [abs_sub_comm N] at h2
  linarith

/-- if `K` steps of height `h` cover the distance `D`, a vector with more than `K` steps of
width `w ≥ h` is longer than `D` -/
theorem far_aux (D K h w u X : ℝ) (hD : 0 ≤ D) (hK : 0 ≤ K) (hDK : D ≤ K * h) (hw : 0 < w)
    (hhw : h ≤ w) (hu : K < |u|) (hX : u ^ 2 * w ^ 2 ≤ X) : D ^ 2 < X := by
  have h1 : D < |u| * w :=
    (hDK.trans (mul_le_mul_of_nonneg_left hhw hK)).trans_lt (mul_lt_mul_of_pos_right hu hw)
  calc D ^ 2 < (|u| * w) ^ 2 := pow_lt_pow_left₀ h1 hD two_ne_zero
    _ = u ^ 2 * w ^ 2 := by rw [mul_pow, sq_abs]
    _ ≤ X := hX

end PV.C01Geom
